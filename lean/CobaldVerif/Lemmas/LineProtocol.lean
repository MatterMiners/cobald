/-
Lemmas for the line protocol (C17). Every reader of the reference decoder undoes the matching
writer in front of any rest it stops at (`Stops`); `sortByKey` returns a permutation ordered by
`<` on `List Char`; a `.replace` chain whose steps do not interfere is one pass.
-/
import CobaldVerif.Model.LineProtocol

namespace Cobald.LP

def noTrailBS : List Char → Bool
  | [] => true
  | [c] => c != '\\'
  | _ :: r => noTrailBS r

theorem noTrailBS_tail (c : Char) (t : List Char) (h : noTrailBS (c :: t) = true) : noTrailBS t = true := by
  cases t with
  | nil => rfl
  | cons d t' => simpa [noTrailBS] using h

/-- `rest` is empty or begins with a character of `S`: a reader that ends a token at the
characters of `S` ends it in front of `rest` -/
def Stops (S rest : List Char) : Prop := ∀ c r, rest = c :: r → c ∈ S

@[simp] theorem stops_cons {S : List Char} {c : Char} {r : List Char} : Stops S (c :: r) ↔ c ∈ S :=
  ⟨fun h => h c r rfl, fun h _ _ e => (List.cons.inj e).1 ▸ h⟩

theorem Stops.mono {S S' rest : List Char} (h : Stops S rest) (hS : S ⊆ S') : Stops S' rest :=
  fun c r e => hS (h c r e)

theorem scan_stop {S : List Char} (hS : '\\' ∉ S) :
    ∀ {rest : List Char}, Stops S rest → scan S rest = ([], rest)
  | [], _ => rfl
  | c :: r, h => by
    have hc : c ∈ S := stops_cons.1 h
    rw [scan.eq_3 _ _ _ fun _ _ e _ => hS (e ▸ hc), if_pos hc]

theorem scan_escaped {S : List Char} {c : Char} (hc : c ∈ S) (r : List Char) :
    scan S ('\\' :: c :: r) = (c :: (scan S r).1, (scan S r).2) := by
  rw [scan, if_pos hc]

theorem scan_backslash {S : List Char} {c : Char} (hc : c ∉ S) (r : List Char) :
    scan S ('\\' :: c :: r) = ('\\' :: (scan S (c :: r)).1, (scan S (c :: r)).2) := by
  rw [scan, if_neg hc]

theorem scan_plain {S : List Char} {c : Char} (hc : c ∉ S) (hb : c ≠ '\\') (r : List Char) :
    scan S (c :: r) = (c :: (scan S r).1, (scan S r).2) := by
  rw [scan.eq_3 _ _ _ fun _ _ e _ => hb e, if_neg hc]

theorem esc_cons_head (S : List Char) (d : Char) (t : List Char) :
    ∃ y, esc S (d :: t) = (if d ∈ S then '\\' else d) :: y := by
  rw [esc]
  split <;> exact ⟨_, rfl⟩

/-- scanning an escaped token followed by a stop character returns the token and the rest -/
theorem scan_esc (S : List Char) (hS : '\\' ∉ S) :
    ∀ (t rest : List Char), noTrailBS t = true → (∀ c r, rest = c :: r → c ∈ S) →
      scan S (esc S t ++ rest) = (t, rest)
  | [], rest, _, hr => scan_stop hS hr
  | c :: t, rest, ht, hr => by
      have ih := scan_esc S hS t rest (noTrailBS_tail c t ht) hr
      by_cases hc : c ∈ S
      · rw [esc, if_pos hc, List.cons_append, List.cons_append, scan_escaped hc, ih]
      · rw [esc, if_neg hc, List.cons_append]
        by_cases hb : c = '\\'
        · -- a literal backslash is not the last character of `t`, and what `esc` writes after it
          -- begins with a character outside `S`: the scanner copies the backslash
          subst hb
          cases t with
          | nil => simp [noTrailBS] at ht
          | cons d t' =>
            obtain ⟨y, he⟩ := esc_cons_head S d t'
            rw [he, List.cons_append] at ih ⊢
            rw [scan_backslash (by split <;> assumption), ih]
        · rw [scan_plain hc hb, ih]

theorem bs_not_S2 : '\\' ∉ S2 := by decide
theorem bs_not_S3 : '\\' ∉ S3 := by decide

/-- a quoted string decodes to itself — any string, trailing backslashes included -/
theorem readQuoted_escQ : ∀ (s rest : List Char), readQuoted (escQ s ++ '"' :: rest) = some (s, rest)
  | [], rest => rfl
  | c :: s, rest => by
      by_cases h : c = '\\' ∨ c = '"'
      · rw [escQ, if_pos h, List.cons_append, List.cons_append, readQuoted.eq_3, if_pos h.symm,
          readQuoted_escQ s rest]
      · rw [escQ, if_neg h, List.cons_append,
          readQuoted.eq_4 _ _ (fun e => h (.inr e)) (fun _ _ e _ => h (.inl e)), readQuoted_escQ s rest]

def tokOK (t : List Char) : Prop := ∀ c ∈ t, c ≠ ',' ∧ c ≠ ' ' ∧ c ≠ '\n'

theorem readTok_tok : ∀ (t rest : List Char), tokOK t → Stops [',', ' ', '\n'] rest →
    readTok (t ++ rest) = (t, rest)
  | [], [], _, _ => rfl
  | [], c :: r, _, hr => by
      have hc : c = ',' ∨ c = ' ' ∨ c = '\n' := by simpa using hr
      simp [readTok, hc]
  | c :: t, rest, ht, hr => by
      obtain ⟨hc, ht'⟩ := List.forall_mem_cons.1 ht
      simp [readTok, hc, readTok_tok t rest ht' hr]

/-- what an unquoted value must look like: no separator inside, not starting with a quote -/
def fvalOK : FVal → Prop
  | .str _ => True
  | .tok t => tokOK t ∧ t.head? ≠ some '"'

theorem readValue_enc (v : FVal) (rest : List Char) (hv : fvalOK v) (hr : Stops [',', ' ', '\n'] rest) :
    readValue (encField v ++ rest) = some (v, rest) := by
  cases v with
  | str s => simp [encField, readValue, readQuoted_escQ]
  | tok t =>
    rw [encField, readValue, readTok_tok t rest hv.1 hr]
    -- the unquoted branch of `readValue` applies: `t ++ rest` does not begin with a quote
    intro r' h
    cases t with
    | cons c t' => exact hv.2 (by simp [(List.cons.inj h).1])
    | nil => exact absurd (hr _ _ h) (by decide)

def tagsOK (T : List (List Char × List Char)) : Prop :=
  ∀ kv ∈ T, noTrailBS kv.1 = true ∧ noTrailBS kv.2 = true

/-- the tag set and the space after it begin with `,` or a space: the name and a tag value end there -/
theorem encTags_stops {S : List Char} (h1 : ',' ∈ S) (h2 : ' ' ∈ S) :
    ∀ (T : List (List Char × List Char)) (rest : List Char), Stops S (encTags T ++ ' ' :: rest)
  | [], _ => stops_cons.2 h2
  | (_, _) :: _, _ => stops_cons.2 h1

theorem parseTags_enc : ∀ (T : List (List Char × List Char)) (n : Nat) (rest : List Char),
    tagsOK T → T.length < n → parseTags n (encTags T ++ ' ' :: rest) = some (T, rest)
  | [], n + 1, rest, _, _ => rfl
  | (k, v) :: T, n + 1, rest, hT, hn => by
      obtain ⟨hkv, hT'⟩ := List.forall_mem_cons.1 hT
      have ih := parseTags_enc T n rest hT' (by simpa using hn)
      have s1 := scan_esc S3 bs_not_S3 k ('=' :: (esc S3 v ++ (encTags T ++ ' ' :: rest))) hkv.1
        (stops_cons.2 (by decide))
      have s2 := scan_esc S3 bs_not_S3 v _ hkv.2 (encTags_stops (by decide) (by decide) T rest)
      simp [encTags, parseTags, s1, s2, ih]

theorem length_encTags : ∀ T : List (List Char × List Char), T.length ≤ (encTags T).length
  | [] => Nat.le_refl _
  | (k, v) :: T => by
      have := length_encTags T
      simp only [encTags, List.length_append, List.length_cons]
      omega

def fieldsOK (F : List (List Char × FVal)) : Prop :=
  ∀ kv ∈ F, noTrailBS kv.1 = true ∧ kv.1.head? ≠ some '\n' ∧ fvalOK kv.2

theorem parseFields_enc : ∀ (F : List (List Char × FVal)) (n : Nat) (rest : List Char),
    F ≠ [] → fieldsOK F → Stops [' ', '\n'] rest → F.length ≤ n →
    parseFields n (encFields F ++ rest) = some (F, rest)
  | [(k, v)], n + 1, rest, _, hF, hr, _ => by
      obtain ⟨hkv, _⟩ := List.forall_mem_cons.1 hF
      rw [encFields, List.append_assoc, List.cons_append, parseFields,
        scan_esc S3 bs_not_S3 k _ hkv.1 (stops_cons.2 (by decide))]
      simp only [readValue_enc v rest hkv.2.2 (hr.mono (by simp))]
      -- `rest` does not begin with a comma, so the field set ends here
      split
      next heq => cases heq; exact absurd (stops_cons.1 hr) (by decide)
      next heq => cases heq; rfl
      next heq => cases heq
  | (k, v) :: kv2 :: F, n + 1, rest, _, hF, hr, hn => by
      obtain ⟨hkv, hF'⟩ := List.forall_mem_cons.1 hF
      have ih := parseFields_enc (kv2 :: F) n rest (by simp) hF' hr (by simpa using hn)
      rw [encFields.eq_3 _ _ _ (by simp), List.append_assoc, List.cons_append, List.append_assoc,
        List.cons_append, parseFields, scan_esc S3 bs_not_S3 k _ hkv.1 (stops_cons.2 (by decide))]
      simp only [readValue_enc v (',' :: _) hkv.2.2 (stops_cons.2 (by decide)), ih]

theorem length_encFields : ∀ (F : List (List Char × FVal)), F.length ≤ (encFields F).length
  | [] => Nat.le_refl _
  | [(k, v)] => by
      simp only [encFields, List.length_append, List.length_cons, List.length_nil]
      omega
  | (k, v) :: kv2 :: F => by
      have := length_encFields (kv2 :: F)
      simp only [encFields, List.length_append, List.length_cons] at this ⊢
      omega

/-- a non-empty field set does not begin with a space or a newline, which is where `parseFieldSet`
sees an empty one -/
theorem encFields_head (F : List (List Char × FVal)) (hne : F ≠ []) (hF : fieldsOK F) (rest : List Char) :
    ∀ c r, encFields F ++ rest = c :: r → c ≠ ' ' ∧ c ≠ '\n' := by
  obtain ⟨⟨k, v⟩, F', rfl⟩ := List.exists_cons_of_ne_nil hne
  obtain ⟨tl, he⟩ : ∃ tl, encFields ((k, v) :: F') ++ rest = esc S3 k ++ '=' :: tl := by
    cases F' <;> simp only [encFields, List.append_assoc, List.cons_append] <;> exact ⟨_, rfl⟩
  rw [he]
  intro c r h
  cases k with
  | nil => cases h; decide
  | cons d k' =>
    obtain ⟨y, hy⟩ := esc_cons_head S3 d k'
    rw [hy] at h
    cases h
    have hd : d ≠ '\n' := by simpa using (hF _ (List.mem_cons_self ..)).2.1
    split
    · decide
    · exact ⟨fun e => ‹d ∉ S3› (e ▸ by decide), hd⟩

theorem parseFieldSet_enc (F : List (List Char × FVal)) (hF : fieldsOK F) (c : Char) (r : List Char)
    (hc : c = ' ' ∨ c = '\n') : parseFieldSet (encFields F ++ c :: r) = some (F, c :: r) := by
  by_cases hne : F = []
  · subst hne
    rcases hc with rfl | rfl <;> rfl
  · have hp := parseFields_enc F ((encFields F ++ c :: r).length + 1) (c :: r) hne hF
      (stops_cons.2 (by simpa using hc))
      (by have := length_encFields F; simp only [List.length_append]; omega)
    have hhead := encFields_head F hne hF (c :: r)
    unfold parseFieldSet
    split
    next h => exact absurd rfl (hhead _ _ h).1
    next h => exact absurd rfl (hhead _ _ h).2
    next => exact hp

theorem readTs_enc (ts : Option (List Char)) (h : ∀ t, ts = some t → tokOK t) :
    readTs (encTs ts ++ ['\n']) = some ts := by
  cases ts with
  | none => rfl
  | some t => simp [encTs, readTs, readTok_tok t ['\n'] (h t rfl) (stops_cons.2 (by decide))]

/-! ### the emitted keys are sorted

`keyLt` is `<` on `List Char`, the order of Python's `str`; transitivity and totality are those
of the library. -/

theorem keyLt_iff_lt : ∀ a b : List Char, keyLt a b = true ↔ a < b
  | [], [] => by simp [keyLt]
  | [], _ :: _ => by simp [keyLt]
  | _ :: _, [] => by simp [keyLt]
  | x :: xs, y :: ys => by
    have hlt : x < y ↔ x.toNat < y.toNat := by rw [Char.lt_def, UInt32.lt_iff_toNat_lt]; rfl
    rw [keyLt, List.cons_lt_cons_iff, ← keyLt_iff_lt xs ys, ← Char.toNat_inj, hlt]
    rcases Nat.lt_trichotomy x.toNat y.toNat with h | h | h
    · simp [h]
    · simp [h]
    · simp [h, Nat.lt_asymm h, Nat.ne_of_gt h]

theorem keyLt_eq_false {a b : List Char} : keyLt a b = false ↔ b ≤ a := by
  rw [← Bool.not_eq_true, keyLt_iff_lt, List.not_lt]

def KeySorted {α} (l : List (List Char × α)) : Prop := l.Pairwise (fun a b => keyLt b.1 a.1 = false)

theorem keySorted_iff {α} {l : List (List Char × α)} : KeySorted l ↔ l.Pairwise (fun a b => a.1 ≤ b.1) := by
  simp only [KeySorted, keyLt_eq_false]

theorem insertByKey_perm {α} (x : List Char × α) : ∀ l, (insertByKey x l).Perm (x :: l)
  | [] => .refl _
  | y :: ys => by
    rw [insertByKey]
    split
    · exact .refl _
    · exact ((insertByKey_perm x ys).cons y).trans (.swap x y ys)

/-- sorting loses nothing and adds nothing, multiplicities included -/
theorem sortByKey_perm {α} : ∀ l : List (List Char × α), (sortByKey l).Perm l
  | [] => .refl _
  | x :: xs => (insertByKey_perm x _).trans ((sortByKey_perm xs).cons x)

theorem insertByKey_sorted {α} (x : List Char × α) : ∀ l : List (List Char × α),
    l.Pairwise (fun a b => a.1 ≤ b.1) → (insertByKey x l).Pairwise (fun a b => a.1 ≤ b.1)
  | [], _ => List.pairwise_singleton ..
  | y :: ys, h => by
    rw [insertByKey]
    split
    next hlt =>
      have hxy : x.1 ≤ y.1 := List.le_of_lt ((keyLt_iff_lt ..).1 hlt)
      exact h.cons (List.forall_mem_cons.2
        ⟨hxy, fun b hb => List.le_trans hxy (List.rel_of_pairwise_cons h hb)⟩)
    next hge =>
      refine (insertByKey_sorted x ys h.tail).cons fun b hb => ?_
      rcases List.mem_cons.1 ((insertByKey_perm x ys).mem_iff.1 hb) with rfl | hb
      · exact keyLt_eq_false.1 (by simpa using hge)
      · exact List.rel_of_pairwise_cons h hb

/-- the keys of the emitted tags and fields are in code-point order (Python's `sorted`) -/
theorem sortByKey_sorted {α} (l : List (List Char × α)) : KeySorted (sortByKey l) := by
  rw [keySorted_iff]
  induction l with
  | nil => exact .nil
  | cons x xs ih => exact insertByKey_sorted x _ ih

theorem lookup_setKey {α} (k k' : List Char) (v : α) : ∀ l : List (List Char × α),
    lookup k' (setKey k v l) = if k = k' then some v else lookup k' l
  | [] => rfl
  | (k2, v2) :: r => by
    by_cases h : k2 = k
    · subst h
      rw [setKey, if_pos rfl, lookup, lookup]
      split <;> rfl
    · rw [setKey, if_neg h, lookup, lookup, lookup_setKey k k' v r]
      by_cases h2 : k2 = k'
      · rw [if_pos h2, if_pos h2, if_neg (h2 ▸ Ne.symm h)]
      · rw [if_neg h2, if_neg h2]

theorem lookup_eq_none {α} (k : List Char) : ∀ l : List (List Char × α), k ∉ l.map (·.1) → lookup k l = none
  | [], _ => rfl
  | (k2, v2) :: r, h => by
    obtain ⟨h1, h2⟩ := List.ne_and_not_mem_of_not_mem_cons h
    rw [lookup, if_neg (Ne.symm h1), lookup_eq_none k r h2]

/-- `dict.update` with a mapping whose keys are distinct: updated keys win, others are kept -/
theorem lookup_update {α} (upd : List (List Char × α)) (hnd : (upd.map (·.1)).Nodup)
    (acc : List (List Char × α)) (k : List Char) :
    lookup k (upd.foldl (fun a kv => setKey kv.1 kv.2 a) acc) =
      (lookup k upd).or (lookup k acc) := by
  induction upd generalizing acc with
  | nil => rfl
  | cons x xs ih =>
    obtain ⟨k1, v1⟩ := x
    obtain ⟨hk1, hxs⟩ := List.nodup_cons.1 hnd
    rw [List.foldl_cons, ih hxs, lookup_setKey, lookup]
    split
    next h => subst h; rw [lookup_eq_none k1 xs hk1]; rfl
    next => rfl

/-- one pass over the string: every character that has a replacement is replaced by it -/
def onePass (ps : List (Char × List Char)) (s : List Char) : List Char :=
  s.flatMap (fun x => match ps.find? (fun p => p.1 == x) with | some p => p.2 | none => [x])

/-- no replacement text contains a character that a *later* replace of the chain looks for -/
def chainOK : List (Char × List Char) → Bool
  | [] => true
  | (_, t) :: ps => ps.all (fun q => !t.contains q.1) && chainOK ps

theorem onePass_fixed (ps : List (Char × List Char)) (t : List Char) (h : ps.all (fun q => !t.contains q.1) = true) :
    onePass ps t = t := by
  have hx : ∀ x ∈ t, (match ps.find? (fun p => p.1 == x) with | some p => p.2 | none => [x]) = [x] := by
    intro x hx
    have : ps.find? (fun p => p.1 == x) = none :=
      List.find?_eq_none.2 fun q hq e => by
        have := List.all_eq_true.1 h q hq
        simp_all
    rw [this]
  rw [onePass, List.flatMap_def, List.map_congr_left hx, ← List.flatMap_def, List.flatMap_singleton']

/-- a replace chain whose later steps never touch what earlier steps produced is one pass -/
theorem replSeq_eq_onePass : ∀ (ps : List (Char × List Char)) (s : List Char), chainOK ps = true → replSeq ps s = onePass ps s
  | [], s, _ => by simp [replSeq, onePass]
  | (c, t) :: ps, s, h => by
    simp only [chainOK, Bool.and_eq_true] at h
    rw [replSeq, replSeq_eq_onePass ps _ h.2]
    unfold rep1 onePass
    rw [List.flatMap_assoc]
    congr 1
    funext x
    by_cases hx : x = c
    · subst hx
      simp only [if_true, List.find?_cons, beq_self_eq_true]
      exact onePass_fixed ps t h.1
    · have : (c == x) = false := by simpa using fun e => hx e.symm
      simp [hx, this]

/-- the pairs of a chain that puts a backslash before every character of `S` -/
def escPairs (S : List Char) : List (Char × List Char) := S.map (fun c => (c, ['\\', c]))

theorem find_escPairs (S : List Char) (x : Char) :
    (escPairs S).find? (fun p => p.1 == x) = if x ∈ S then some (x, ['\\', x]) else none := by
  induction S with
  | nil => simp [escPairs]
  | cons c cs ih =>
    simp only [escPairs, List.map_cons, List.find?_cons] at ih ⊢
    by_cases h : c = x
    · subst h; simp
    · have hb : (c == x) = false := by simpa using h
      have hx : ¬ x = c := fun e => h e.symm
      rw [hb]
      simp only [List.mem_cons, hx, false_or]
      exact ih

theorem onePass_cons (ps : List (Char × List Char)) (x : Char) (xs : List Char) :
    onePass ps (x :: xs) =
      (match ps.find? (fun p => p.1 == x) with | some p => p.2 | none => [x]) ++ onePass ps xs :=
  List.flatMap_cons ..

theorem onePass_escPairs (S : List Char) : ∀ s, onePass (escPairs S) s = esc S s
  | [] => rfl
  | x :: xs => by
    rw [onePass_cons, find_escPairs, onePass_escPairs S xs]
    by_cases h : x ∈ S <;> simp [esc, h]

/-- a chain of `.replace(c, "\\" + c)`, one per character of `S`, is `esc S` -/
theorem replSeq_escPairs (S : List Char) (h : chainOK (escPairs S) = true) (s : List Char) :
    replSeq (escPairs S) s = esc S s := by
  rw [replSeq_eq_onePass _ _ h, onePass_escPairs]

theorem escQ_eq_esc : ∀ s, escQ s = esc ['\\', '"'] s := by
  intro s
  induction s with
  | nil => rfl
  | cons c r ih => simp [escQ, esc, ih]

/-! ### what the encoder writes of its own accord

A character other than `\`, `"`, `,`, `=` and the space occurs in an encoding only where a name,
key or value has it. -/

theorem not_mem_esc {c : Char} (hc : c ≠ '\\') (S : List Char) : ∀ t : List Char, c ∉ t → c ∉ esc S t
  | [], _ => List.not_mem_nil
  | d :: t, h => by
    obtain ⟨hd, ht⟩ := List.ne_and_not_mem_of_not_mem_cons h
    have := not_mem_esc hc S t ht
    rw [esc]
    split <;> simp [*]

theorem not_mem_encField {c : Char} (hc : c ∉ ['\\', '"']) (v : FVal) (h : c ∉ tagText v) :
    c ∉ encField v := by
  obtain ⟨hb, hq⟩ : c ≠ '\\' ∧ c ≠ '"' := by simpa using hc
  cases v with
  | tok t => exact h
  | str s =>
    have := not_mem_esc hb ['\\', '"'] s h
    simp only [encField, escQ_eq_esc, List.mem_append, List.mem_cons, not_or]
    exact ⟨⟨hq, this⟩, hq, List.not_mem_nil⟩

theorem not_mem_encTags {c : Char} (hc : c ∉ ['\\', ',', '=']) :
    ∀ T : List (List Char × List Char), (∀ kv ∈ T, c ∉ kv.1 ∧ c ∉ kv.2) → c ∉ encTags T
  | [], _ => List.not_mem_nil
  | (k, v) :: T, h => by
    obtain ⟨hb, hcomma, heq⟩ : c ≠ '\\' ∧ c ≠ ',' ∧ c ≠ '=' := by simpa using hc
    obtain ⟨hkv, hT⟩ := List.forall_mem_cons.1 h
    simp only [encTags, List.mem_cons, List.mem_append, not_or]
    exact ⟨⟨⟨hcomma, not_mem_esc hb S3 k hkv.1⟩, heq, not_mem_esc hb S3 v hkv.2⟩,
      not_mem_encTags hc T hT⟩

theorem not_mem_encFields {c : Char} (hc : c ∉ ['\\', '"', ',', '=']) :
    ∀ F : List (List Char × FVal), (∀ kv ∈ F, c ∉ kv.1 ∧ c ∉ tagText kv.2) → c ∉ encFields F
  | [], _ => List.not_mem_nil
  | (k, v) :: F, h => by
    obtain ⟨hb, hq, hcomma, heq⟩ : c ≠ '\\' ∧ c ≠ '"' ∧ c ≠ ',' ∧ c ≠ '=' := by simpa using hc
    obtain ⟨hkv, hF⟩ := List.forall_mem_cons.1 h
    have h1 := not_mem_esc hb S3 k hkv.1
    have h2 := not_mem_encField (by simp [hb, hq]) v hkv.2
    cases F with
    | nil =>
      simp only [encFields, List.mem_cons, List.mem_append, not_or]
      exact ⟨h1, heq, h2⟩
    | cons kv2 F =>
      simp only [encFields, List.mem_cons, List.mem_append, not_or]
      exact ⟨⟨h1, heq, h2⟩, hcomma, not_mem_encFields hc (kv2 :: F) hF⟩

end Cobald.LP
