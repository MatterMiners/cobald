/-
The regenerated dependency table of `load_section_plugins` (`Generated/SrcSections.lean`): what loops of
`dependencies[k].add(x)` statements do to the keys and the relation `Has` of a table.
-/
import CobaldVerif.Lemmas.Sections
import CobaldVerif.Generated.SrcSections

namespace Cobald.Sections
open Cobald

variable {d : Deps} {k x k' x' : String}

theorem addDep_eq :
    Gen.Sections.addDep d k' x' = d.map fun kd => (kd.1, if kd.1 = k' then kd.2 ++ [x'] else kd.2) :=
  List.map_congr_left fun kd _ => by split_ifs <;> rfl

theorem keys_addDep : keys (Gen.Sections.addDep d k' x') = keys d := by
  rw [addDep_eq, keys_map_snd]

/-- `dependencies[k'].add(x')` adds the one dependency, provided `k'` is a key -/
theorem has_addDep :
    Has (Gen.Sections.addDep d k' x') k x ↔ Has d k x ∨ (k = k' ∧ x = x') ∧ k ∈ keys d := by
  rw [addDep_eq, has_map, mem_keys]
  constructor
  · rintro ⟨⟨k, ds⟩, hm, rfl, hx⟩
    split_ifs at hx with hk
    · rcases List.mem_append.mp hx with h | h
      · exact .inl ⟨ds, hm, h⟩
      · exact .inr ⟨⟨hk, List.mem_singleton.mp h⟩, ds, hm⟩
    · exact .inl ⟨ds, hm, hx⟩
  · rintro (⟨ds, hm, hx⟩ | ⟨⟨rfl, rfl⟩, ds, hm⟩)
    · refine ⟨(k, ds), hm, rfl, ?_⟩
      split_ifs
      · exact List.mem_append_left _ hx
      · exact hx
    · exact ⟨(k, ds), hm, rfl, by simp⟩

/-- `d'` is `d` with the dependencies `E` added under the keys it has -/
def Adds (E : String → String → Prop) (d d' : Deps) : Prop :=
  keys d' = keys d ∧ ∀ k x, Has d' k x ↔ Has d k x ∨ E k x ∧ k ∈ keys d

theorem addDep_adds : Adds (fun k x => k = k' ∧ x = x') d (Gen.Sections.addDep d k' x') :=
  ⟨keys_addDep, fun _ _ => has_addDep⟩

/-- a loop adds what its steps add; both loops of `load_section_plugins` are of this kind -/
theorem foldl_adds {β} {step : Deps → β → Deps} {E : β → String → String → Prop}
    (hstep : ∀ d b, Adds (E b) d (step d b)) (l : List β) (d : Deps) :
    Adds (fun k x => ∃ b ∈ l, E b k x) d (l.foldl step d) := by
  induction l generalizing d with
  | nil => exact ⟨rfl, by simp⟩
  | cons b l ih =>
    obtain ⟨hk, hh⟩ := hstep d b
    refine ⟨(ih _).1.trans hk, fun k x => ((ih _).2 k x).trans ?_⟩
    simp only [hh, hk, List.exists_mem_cons_iff, or_and_right, or_assoc]

/-- the guarded step of the inner loop: `if before in plugins: dependencies[before].add(plugin.section)` -/
theorem guarded_addDep_adds (names : List String) :
    Adds (fun k x => k' ∈ names ∧ k = k' ∧ x = x') d
      (if decide (k' ∈ names) then Gen.Sections.addDep d k' x' else d) := by
  split_ifs with h
  · simpa only [of_decide_eq_true h, true_and] using addDep_adds
  · exact ⟨rfl, by simp only [mt decide_eq_true h, false_and, or_false, implies_true]⟩

end Cobald.Sections
