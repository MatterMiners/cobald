/-
Progress of the closing phase of the runtime LTS (C01 C02 C12): once the run has been asked to
stop (a failure was delivered, an interrupt, or shutdown()) and the coroutine payloads have
unwound, the internal closing steps are always enabled, each strictly decreases a measure that
is at most 8, and they end the run.  Thread payloads occur in none of the conditions.
-/
import CobaldVerif.Lemmas.RuntimeInv

namespace Cobald.Runtime

def b2n (b : Bool) : Nat := if b then 1 else 0

/-- what is left to do before the run call can end -/
def St.mu (s : St) : Nat :=
  b2n (!s.phase.restartable) +
  b2n (decide (s.latch .aio = .opened)) + b2n (decide (s.latch .trio = .opened)) + b2n (decide (s.latch .thr = .opened)) +
  b2n (decide (s.rtask .aio = .running)) + b2n (decide (s.rtask .trio = .running)) + b2n (decide (s.rtask .thr = .running)) +
  b2n (decide (s.gather = .pending))

theorem b2n_le (b : Bool) : b2n b ≤ 1 := by cases b <;> simp [b2n]

theorem mu_le (s : St) : s.mu ≤ 8 := by
  unfold St.mu
  grind [b2n_le]

/-- `mu` falls when an open latch leaves `opened`, when a running runner task ends, and when `gather`
stops pending -/
theorem mu_setOpen_lt {s : St} {f : Flav} (hf : s.latch f = .opened) {l : Latch} (hl : l ≠ .opened) :
    St.mu { s with latch := setOpen s.latch f l } < s.mu := by
  cases f <;> simp [St.mu, b2n, setOpen, step.upd', hf, hl] <;> omega

theorem mu_setRtask_lt {s : St} {f : Flav} (hf : s.rtask f = .running) {r : RTask} (hr : r ≠ .running) :
    St.mu { s with rtask := step.upd' s.rtask f r } < s.mu := by
  cases f <;> simp [St.mu, b2n, step.upd', hf, hr] <;> omega

theorem mu_setGather_lt {s : St} (hg : s.gather = .pending) {g : Gather} (hg' : g ≠ .pending) :
    St.mu { s with gather := g } < s.mu := by
  simp [St.mu, b2n, hg, hg']

/-- the internal steps of closing, and the end of the run -/
def Ev.closingEv : Ev → Bool
  | .close _ | .rtaskEnd _ | .gatherRaise _ | .gatherDone | .endRun _ => true
  | _ => false

/-- no coroutine payload is executing any more (all unwound or finished) -/
def St.coQuiet (s : St) : Prop := s.pids.all (fun p => !((s.fl p).isCo && s.coBusy p)) = true
instance (s : St) : Decidable s.coQuiet := by unfold St.coQuiet; infer_instance

/-- the result the run ends with, read off what `gather` saw -/
def St.result (s : St) : Res :=
  match s.gather with
  | .raised p =>
    (match s.pay p with
     | .done .baseExc => .raisedBase p
     | .done .sysExit => .raisedBase p
     | .done .kbd => .raisedBase p
     | _ => .raisedRT p)
  | _ => .returned

theorem resultOK_result (s : St) : s.resultOK s.result = true := by
  unfold St.resultOK St.result
  cases hg : s.gather with
  | raised p =>
    simp only
    cases hp : s.pay p with
    | done o => cases o <;> simp
    | _ => simp
  | _ => simp

/-- **closing always makes progress**: in a state that is up, has been asked to stop and whose
coroutine payloads have unwound, one of the closing steps (or the end of the run) is enabled and
strictly decreases the measure; the conditions are reproduced afterwards -/
theorem closing_progress (s : St) (inv : Inv s) (hup : s.phase = .up) (hc : s.closing) (hq : s.coQuiet) :
    ∃ e s', e.closingEv = true ∧ step s e = some s' ∧ s'.mu < s.mu ∧
      ((∃ r, e = .endRun r ∧ s'.phase = .ended r) ∨ (s'.phase = .up ∧ s'.closing ∧ s'.coQuiet)) := by
  by_cases h1 : ∃ f, s.latch f = .opened
  · obtain ⟨f, hf⟩ := h1
    exact ⟨.close f, _, rfl, (Step.close f hup hc).to_step, mu_setOpen_lt hf nofun, .inr ⟨hup, hc, hq⟩⟩
  have hl : ∀ f, s.latch f ≠ .opened := fun f hf => h1 ⟨f, hf⟩
  by_cases h2 : ∃ f, s.rtask f = .running
  · obtain ⟨f, hf⟩ := h2
    cases hlf : s.latch f with
    | opened => exact absurd hlf (hl f)
    | failed p => exact ⟨.rtaskEnd f, _, rfl, (Step.rtaskErr f p hup hf hlf).to_step, mu_setRtask_lt hf nofun, .inr ⟨hup, hc, hq⟩⟩
    | closed => exact ⟨.rtaskEnd f, _, rfl, (Step.rtaskOk f hup hf hlf).to_step, mu_setRtask_lt hf nofun, .inr ⟨hup, hc, hq⟩⟩
  have hr : ∀ f, s.rtask f ≠ .running := fun f hf => h2 ⟨f, hf⟩
  by_cases hg : s.gather = .pending
  · by_cases h3 : ∃ f p, s.rtask f = .err p
    · obtain ⟨f, p, hf⟩ := h3
      exact ⟨.gatherRaise f, _, rfl, (Step.gatherRaise f p hf hg hup).to_step, mu_setGather_lt hg nofun, .inr ⟨hup, .inr nofun, hq⟩⟩
    · have hok : ∀ f, s.rtask f = .ok := fun f => by
        cases h : s.rtask f with
        | running => exact absurd h (hr f)
        | ok => rfl
        | cancelled => exact absurd hg (inv.d.cancelled_seen f h)
        | err p => exact absurd ⟨f, p, h⟩ h3
      exact ⟨.gatherDone, _, rfl, (Step.gatherDone hup hg hok).to_step, mu_setGather_lt hg nofun, .inr ⟨hup, .inr nofun, hq⟩⟩
  · refine ⟨.endRun s.result, _, rfl, (Step.endRun _ hup hg hr hl hq (resultOK_result s)).to_step, ?_, .inl ⟨_, rfl, rfl⟩⟩
    simp [St.mu, b2n, hup, Phase.restartable]

/-- closing terminates within `mu` steps; the invariant, and any predicate the closing steps
preserve, hold at the end -/
theorem closing_run (P : St → Prop) (hP : ∀ s s' e, Ev.closingEv e = true → step s e = some s' → P s → P s')
    (s : St) (inv : Inv s) (hup : s.phase = .up) (hc : s.closing) (hq : s.coQuiet) (hp : P s) :
    ∃ es s' r, es.all Ev.closingEv = true ∧ run s es = some s' ∧ s'.phase = .ended r ∧ P s' ∧ Inv s' ∧
      es.length ≤ s.mu := by
  induction hn : s.mu using Nat.strongRecOn generalizing s with
  | _ n ih =>
    subst hn
    obtain ⟨e, s1, he, hs, hlt, hnext⟩ := closing_progress s inv hup hc hq
    have inv1 := inv_step s s1 e inv hs
    have hp1 := hP s s1 e he hs hp
    rcases hnext with ⟨r, rfl, hr⟩ | ⟨hup1, hc1, hq1⟩
    · exact ⟨[.endRun r], s1, r, by simp [Ev.closingEv], run_cons.2 ⟨s1, hs, rfl⟩, hr, hp1, inv1, by simp; omega⟩
    · obtain ⟨es, s', r, hall, hrun, hend, hpe, inve, hlen⟩ := ih _ hlt s1 inv1 hup1 hc1 hq1 hp1 rfl
      exact ⟨e :: es, s', r, by simp [he, hall], run_cons.2 ⟨s1, hs, hrun⟩, hend, hpe, inve, by simp; omega⟩

theorem closing_terminates (s : St) (hr : Reach s) (hup : s.phase = .up) (hc : s.closing) (hq : s.coQuiet) :
    ∃ es s' r, (es.all Ev.closingEv = true) ∧ run s es = some s' ∧ s'.phase = .ended r ∧ es.length ≤ 8 := by
  obtain ⟨es, s', r, h1, h2, h3, -, -, h4⟩ :=
    closing_run (fun _ => True) (fun _ _ _ _ _ => id) s (inv_reach s hr) hup hc hq trivial
  exact ⟨es, s', r, h1, h2, h3, Nat.le_trans h4 (mu_le s)⟩

/-- no failure has been recorded or delivered -/
def St.clean (s : St) : Prop :=
  (∀ f, (s.latch f).isFailed = false) ∧ (∀ f p, s.rtask f ≠ .err p) ∧ (∀ p, s.gather ≠ .raised p)

/-- the closing steps never invent a failure -/
theorem clean_step (s s' : St) (e : Ev) (he : e.closingEv = true) (hs : step s e = some s') (hc : s.clean) :
    s'.clean := by
  obtain ⟨c1, c2, c3⟩ := hc
  cases Step.of_step hs <;> try cases he
  case close f _ _ =>
    refine ⟨fun g => ?_, c2, c3⟩
    show (setOpen s.latch f .closed g).isFailed = false
    rw [setOpen_apply]
    split
    · rfl
    · exact c1 g
  case rtaskErr f p _ _ hl => have := c1 f; rw [hl] at this; cases this
  case rtaskOk f _ _ _ =>
    refine ⟨c1, fun g p (hg : step.upd' s.rtask f .ok g = .err p) => ?_, c3⟩
    rw [upd'_apply] at hg
    split at hg
    · cases hg
    · exact c2 g p hg
  case gatherRaise f p hr _ _ => exact absurd hr (c2 f p)
  case gatherDone => exact ⟨c1, c2, nofun⟩
  case endRun => exact ⟨c1, c2, c3⟩

theorem closing_returns (s : St) (hr : Reach s) (hup : s.phase = .up) (hc : s.closing) (hq : s.coQuiet) (hcl : s.clean) :
    ∃ es s', (es.all Ev.closingEv = true) ∧ run s es = some s' ∧ s'.phase = .ended .returned ∧ es.length ≤ 8 := by
  obtain ⟨es, s', r, h1, h2, h3, hcl', inv', h4⟩ :=
    closing_run St.clean clean_step s (inv_reach s hr) hup hc hq hcl
  refine ⟨es, s', h1, h2, ?_, Nat.le_trans h4 (mu_le s)⟩
  cases r with
  | returned => exact h3
  | raisedRT p => exact absurd (inv'.a.ended_rt p h3).1 (hcl'.2.2 p)
  | raisedBase p => exact absurd (inv'.a.ended_base p h3).1 (hcl'.2.2 p)

/-- cancellation can always be delivered: a coroutine payload that is still running when the run
is closing unwinds after its runner has been closed; an outcome that has not been looked at yet
can always be processed -/
theorem unwind_enabled (s : St) (p : Nat) (hup : s.phase = .up) (hc : s.closing) (hrun : s.pay p = .running)
    (hco : (s.fl p).isCo = true) :
    ∃ s1 s2, step s (.close (s.fl p)) = some s1 ∧ step s1 (.unwound p) = some s2 ∧ s2.pay p = .unwound := by
  let s1 : St := { s with latch := setOpen s.latch (s.fl p) .closed }
  exact ⟨s1, _, (Step.close _ hup hc).to_step, (Step.unwound (s := s1) p hrun hco (setOpen_self_ne nofun)).to_step,
    by simp [upd]⟩

theorem record_enabled (s : St) (p : Nat) (o : Out) (h : s.pay p = .ended o) :
    ∃ s', step s (.record p) = some s' ∧ s'.pay p = .done o := by
  by_cases hup : s.phase = .up
  · by_cases hk : o.loopKiller = true ∧ s.fl p ≠ .trio
    · by_cases hl : s.latch (s.fl p) = .opened ∨ (o = .kbd ∧ s.fl p = .aio)
      · exact ⟨_, (Step.recordKill p o h hup hk.1 hk.2 hl).to_step, by simp⟩
      · exact ⟨_, (Step.recordOnly p o h (.inr (.inl ⟨hk, hl⟩))).to_step, by simp⟩
    · cases hf : o.failing
      · exact ⟨_, (Step.recordOnly p o h (.inr (.inr ⟨hk, hf⟩))).to_step, by simp⟩
      · exact ⟨_, (Step.recordFail p o h hup hk hf).to_step, by simp⟩
  · exact ⟨_, (Step.recordOnly p o h (.inl hup)).to_step, by simp⟩

/-- the closing steps leave the payloads alone and never take back what `gather` has seen -/
theorem closing_step_keeps (s s' : St) (e : Ev) (he : e.closingEv = true) (hs : step s e = some s') :
    s'.pay = s.pay ∧ (s.gather ≠ .pending → s'.gather = s.gather) := by
  cases Step.of_step hs <;> try cases he
  case gatherRaise hg _ | gatherDone _ hg _ => exact ⟨rfl, fun h => absurd hg h⟩
  all_goals exact ⟨rfl, fun _ => rfl⟩

/-- **a delivered failure ends the run, and not by a normal return**: once `gather` has raised
the failure of payload `p` (not a KeyboardInterrupt) and the coroutine payloads have unwound, at
most 8 closing steps end the run call with an error -/
theorem failure_ends_run (s : St) (hr : Reach s) (hup : s.phase = .up) (p : Nat) (hg : s.gather = .raised p)
    (hk : s.pay p ≠ .done .kbd) (hq : s.coQuiet) :
    ∃ es s' r, (es.all Ev.closingEv = true) ∧ run s es = some s' ∧ s'.phase = .ended r ∧ r ≠ .returned ∧ es.length ≤ 8 := by
  obtain ⟨es, s', r, h1, h2, h3, ⟨hpay, hgg⟩, inv', h4⟩ :=
    closing_run (fun t => t.pay = s.pay ∧ t.gather = s.gather)
      (fun a b e he hs hab => by
        obtain ⟨k1, k2⟩ := closing_step_keeps a b e he hs
        exact ⟨k1.trans hab.1, (k2 (by rw [hab.2, hg]; nofun)).trans hab.2⟩)
      s (inv_reach s hr) hup (.inr (by rw [hg]; nofun)) hq ⟨rfl, rfl⟩
  refine ⟨es, s', r, h1, h2, h3, ?_, Nat.le_trans h4 (mu_le s)⟩
  rintro rfl
  rcases inv'.a.ended_returned h3 with h | h | ⟨q, hq1, hq2⟩
  · rw [hgg, hg] at h; cases h
  · rw [hgg, hg] at h; cases h
  · rw [hgg, hg] at hq1; cases hq1; exact hk (hpay ▸ hq2)

end Cobald.Runtime
