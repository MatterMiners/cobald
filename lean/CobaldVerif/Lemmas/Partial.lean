/-
The `>>` algebra on unfinished chains. An item without constructed objects (`noObj`) that is not
a pool template (`headOK`) stands for the list `flatten` of its templates: `>>` of two such
items constructs nothing and concatenates the lists (`rshift_heads`), `>>` onto a tail nests
the list over the tail's object, last template first (`rshift_tail`, from `applyTo_spec`).
Below that, the signature check and currying read as propositions, and one step of the pipeline
walk (`Pipeline.construct1`) in closed form.
-/
import CobaldVerif.Model.Pipeline

namespace Cobald.Partial

mutual
def noObj : Item → Bool
  | .tmpl _ => true
  | .bind _ ts => noObjL ts
  | .obj _ => false
def noObjL : List Item → Bool
  | [] => true
  | i :: is => noObj i && noObjL is
end

attribute [simp] flatten flattenL nest noObj noObjL leaves

theorem nest_append (a b : List Tmpl) (o : Obj) : nest (a ++ b) o = nest a (nest b o) := by
  induction a with
  | nil => rfl
  | cons t a ih => simp [ih]

mutual
theorem applyTo_spec : ∀ (it : Item) (o : Obj), noObj it = true →
    applyTo it o = some (nest (flatten it) o, (flatten it).reverse)
  | .tmpl t, o, _ => rfl
  | .bind p ts, o, h => by simp [applyTo, applyL_spec ts o h]
  | .obj _, _, h => by simp at h
theorem applyL_spec : ∀ (is : List Item) (o : Obj), noObjL is = true →
    applyL is o = some (nest (flattenL is) o, (flattenL is).reverse)
  | [], o, _ => rfl
  | i :: is, o, h => by
      have h : noObj i = true ∧ noObjL is = true := by simpa using h
      simp [applyL, applyL_spec is o h.2, applyTo_spec i _ h.1, nest_append]
end

def isHead : Item → Bool
  | .tmpl t => !t.leaf
  | _ => false

def headT : Item → List Tmpl
  | .tmpl t => [t]
  | _ => []

theorem flattenL_append (a b : List Item) : flattenL (a ++ b) = flattenL a ++ flattenL b := by
  induction a with
  | nil => rfl
  | cons i is ih => simp [ih]

theorem noObjL_append (a b : List Item) : noObjL (a ++ b) = (noObjL a && noObjL b) := by
  induction a with
  | nil => rfl
  | cons i is ih => simp [ih, Bool.and_assoc]

/-- the templates of a list of items that are all plain templates -/
def tmplsOf : List Item → List Tmpl
  | [] => []
  | i :: is => headT i ++ tmplsOf is

attribute [simp] tmplsOf headT

theorem tmplsOf_append (a b : List Item) : tmplsOf (a ++ b) = tmplsOf a ++ tmplsOf b := by
  induction a with
  | nil => rfl
  | cons i is ih => simp [ih]

theorem tmplsOf_map_tmpl (ts : List Tmpl) : tmplsOf (ts.map .tmpl) = ts := by
  induction ts with
  | nil => rfl
  | cons t ts ih => simp [ih]

def headOK : Item → Bool
  | .tmpl t => !t.leaf
  | .bind _ _ => true
  | .obj _ => false

/-- `a >> b` of two unfinished chains constructs nothing and is the chain of both -/
theorem rshift_heads (a b : Item) (na : noObj a = true) (ha : headOK a = true)
    (nb : noObj b = true) (hb : headOK b = true) :
    ∃ c, rshift a b = some (c, []) ∧ noObj c = true ∧ flatten c = flatten a ++ flatten b ∧
      headOK c = true := by
  cases a with
  | obj _ => simp [headOK] at ha
  | tmpl s =>
    cases b with
    | obj _ => simp [headOK] at hb
    | tmpl t =>
      have ht : t.leaf = false := by simpa [headOK] using hb
      exact ⟨.bind s [.tmpl t], by simp [rshift, ht], rfl, rfl, rfl⟩
    | bind q us => exact ⟨.bind s (.tmpl q :: us), rfl, nb, rfl, rfl⟩
  | bind p ts =>
    cases b with
    | obj _ => simp [headOK] at hb
    | tmpl t =>
      have ht : t.leaf = false := by simpa [headOK] using hb
      exact ⟨.bind p (ts ++ [.tmpl t]), by simp [rshift, ht], by simpa [noObjL_append] using na,
        by simp [flattenL_append], rfl⟩
    | bind q us =>
      exact ⟨.bind p (ts ++ [.bind q us]), rfl, by simp_all [noObjL_append],
        by simp [flattenL_append], rfl⟩

theorem eval_shift {l r : Expr} {a b c : Item} {la lb lc : Log} (hl : eval l = some (a, la))
    (hr : eval r = some (b, lb)) (hc : rshift a b = some (c, lc)) :
    eval (.shift l r) = some (c, la ++ lb ++ lc) := by
  simp [eval, hl, hr, hc]

/-- any grouping of non-leaf templates evaluates, constructing nothing, to an item that
flattens to the templates in order -/
theorem eval_heads (e : Expr) (h : ∀ i ∈ leaves e, isHead i = true) :
    ∃ it, eval e = some (it, []) ∧ noObj it = true ∧ flatten it = tmplsOf (leaves e) ∧
      headOK it = true := by
  induction e with
  | leaf i =>
    cases i with
    | tmpl t => exact ⟨.tmpl t, rfl, rfl, rfl, h _ (List.mem_singleton.mpr rfl)⟩
    | bind p ts => simp [isHead] at h
    | obj o => simp [isHead] at h
  | shift l r ihl ihr =>
    obtain ⟨a, ea, na, fa, oa⟩ := ihl fun i hi => h i (List.mem_append_left _ hi)
    obtain ⟨b, eb, nb, fb, ob⟩ := ihr fun i hi => h i (List.mem_append_right _ hi)
    obtain ⟨c, ec, nc, fc, oc⟩ := rshift_heads a b na oa nb ob
    exact ⟨c, eval_shift ea eb ec, nc, by rw [fc, fa, fb, leaves, tmplsOf_append], oc⟩

/-- the three tail forms: a pool instance, or a (possibly curried) pool template -/
def tailObj : Item → Option (Obj × Log)
  | .obj o => some (o, [])
  | .tmpl t => if t.leaf then some (mkLeaf t, [t]) else none
  | .bind _ _ => none

theorem leaves_ne_nil (e : Expr) : leaves e ≠ [] := by
  induction e with
  | leaf i => simp
  | shift l r ihl _ => simp [ihl]

theorem leaves_singleton (e : Expr) (x : Item) (h : leaves e = [x]) : e = .leaf x := by
  cases e with
  | leaf i => simpa using h
  | shift l r =>
    rcases List.append_eq_singleton_iff.mp h with ⟨h, _⟩ | ⟨_, h⟩ <;> exact absurd h (leaves_ne_nil _)

theorem split_last {α} (a b hs : List α) (t : α) (hb : b ≠ []) (h : a ++ b = hs ++ [t]) :
    ∃ b', b = b' ++ [t] ∧ hs = a ++ b' := by
  rcases List.eq_nil_or_concat b with rfl | ⟨b', x, rfl⟩
  · exact absurd rfl hb
  · rw [List.concat_eq_append, ← List.append_assoc, List.append_singleton_inj] at h
    exact ⟨b', by rw [List.concat_eq_append, h.2], h.1.symm⟩

theorem rshift_obj (a : Item) (o : Obj) (na : noObj a = true) (ha : headOK a = true) :
    rshift a (.obj o) = some (.obj (nest (flatten a) o), (flatten a).reverse) := by
  cases a with
  | obj x => simp [headOK] at ha
  | tmpl s => rfl
  | bind p ts => simp [rshift, applyTo_spec (.bind p ts) o na]

theorem rshift_leaf (a : Item) (t : Tmpl) (ht : t.leaf = true) (na : noObj a = true)
    (ha : headOK a = true) :
    rshift a (.tmpl t) = some (.obj (nest (flatten a) (mkLeaf t)), t :: (flatten a).reverse) := by
  cases a with
  | obj x => simp [headOK] at ha
  | tmpl s => simp [rshift, ht]
  | bind p ts => simp [rshift, ht, applyTo_spec (.bind p ts) (mkLeaf t) na]

/-- an unfinished chain bound to any of the tail forms: the tail is constructed first, then
the chain last to first -/
theorem rshift_tail {a tl : Item} {o : Obj} {l0 : Log} (na : noObj a = true) (ha : headOK a = true)
    (ht : tailObj tl = some (o, l0)) :
    rshift a tl = some (.obj (nest (flatten a) o), l0 ++ (flatten a).reverse) := by
  cases tl with
  | obj x =>
    obtain ⟨rfl, rfl⟩ : x = o ∧ [] = l0 := by simpa [tailObj] using ht
    exact rshift_obj a x na ha
  | tmpl t =>
    by_cases hl : t.leaf = true
    · obtain ⟨rfl, rfl⟩ : mkLeaf t = o ∧ [t] = l0 := by simpa [tailObj, hl] using ht
      exact rshift_leaf a t hl na ha
    · simp [tailObj, hl] at ht
  | bind p ts => simp [tailObj] at ht

namespace Sig

theorem names_eq (s : Sig) (n : Nat) :
    s.names = (s.pos.take n).map (·.name) ++ (s.pos.drop n ++ s.kwOnly).map (·.name) := by
  rw [List.map_append, ← List.append_assoc, ← List.map_append, List.take_append_drop, Sig.names]

theorem kwOK_eq_true (s : Sig) (n : Nat) (k : String) : s.kwOK n k = true ↔
    k ∉ (s.pos.take n).map (·.name) ∧ (k ∈ s.names ∨ s.varKw = true) := by
  rw [s.names_eq n]
  simp only [Sig.kwOK, Bool.and_eq_true, Bool.not_eq_true', Bool.or_eq_true, List.contains_eq_mem,
    decide_eq_false_iff_not, decide_eq_true_eq, List.map_append, List.mem_append, or_assoc]
  exact and_congr_right fun h => ⟨.inr, (·.resolve_left h)⟩

theorem bindPartial_eq_true (s : Sig) (n : Nat) (kw : List String) : s.bindPartial n kw = true ↔
    (n ≤ s.pos.length ∨ s.varPos = true) ∧ ∀ k ∈ kw, s.kwOK n k = true := by
  simp [Sig.bindPartial]

theorem callBinds_eq_true (s : Sig) (n : Nat) (kw : List String) : s.callBinds n kw = true ↔
    s.bindPartial n kw = true ∧
      ∀ p ∈ s.pos.drop n ++ s.kwOnly, p.hasDefault = true ∨ p.name ∈ kw := by
  simp [Sig.callBinds, Bool.and_assoc, ← List.all_append]

theorem kwOK_mono {s : Sig} {n n' : Nat} {k : String} (h : s.kwOK (n + n') k = true) :
    s.kwOK n k = true := by
  rw [kwOK_eq_true] at h ⊢
  exact ⟨fun hn => h.1 (List.map_subset _ (List.take_subset_take_left _ (Nat.le_add_right n n')) hn),
    h.2⟩

/-- a parameter not filled positionally may be given by keyword: parameter names being distinct,
it is none of those filled -/
theorem kwOK_of_mem_drop {s : Sig} {n : Nat} {k : String} (hnd : s.names.Nodup)
    (hk : k ∈ (s.pos.drop n ++ s.kwOnly).map (·.name)) : s.kwOK n k = true := by
  rw [kwOK_eq_true, s.names_eq n]
  rw [s.names_eq n] at hnd
  exact ⟨fun hf => (List.nodup_append.mp hnd).2.2 k hf k hk rfl, .inl (List.mem_append_right _ hk)⟩

/-- binding fewer positionals and fewer keywords is still accepted -/
theorem bindPartial_mono {s : Sig} {n n' : Nat} {kw kw' : List String}
    (h : s.bindPartial (n + n') (kw ++ kw') = true) : s.bindPartial n kw = true := by
  rw [bindPartial_eq_true] at h ⊢
  exact ⟨h.1.imp_left (Nat.le_trans (Nat.le_add_right n n')),
    fun k hk => kwOK_mono (h.2 k (List.mem_append_left _ hk))⟩

end Sig

namespace Tmpl

theorem call_eq_some {sigOf : Nat → Sig} {t t' : Tmpl} {args : List Arg}
    {kwargs : List (String × Arg)} : t.call sigOf args kwargs = some t' ↔
    (∀ kv ∈ kwargs, kv.1 ∉ t.kwargs.map (·.1)) ∧ t'.check sigOf = true ∧
      t' = { ctor := t.ctor, args := t.args ++ args, kwargs := t.kwargs ++ kwargs, leaf := t.leaf } := by
  simp only [Tmpl.call, Tmpl.new, Option.ite_none_left_eq_some, Option.ite_none_right_eq_some,
    Option.some.injEq, List.any_eq_true, not_exists, not_and, List.contains_eq_mem, decide_eq_true_eq]
  constructor <;> rintro ⟨d, c, rfl⟩ <;> exact ⟨d, c, rfl⟩

end Tmpl

end Cobald.Partial

namespace Cobald.Pipeline
open Cobald.Partial

/-- whichever of its four branches a step of the walk takes, it constructs the element's
template over the previous object -/
theorem construct1_eq (prev : Option Obj) (e : Elem) :
    construct1 prev e = some (.built e.tmpl prev) := by
  cases prev <;> cases e <;> simp [construct1, rshift, mkLeaf, Elem.tmpl]

end Cobald.Pipeline
