import CobaldVerif.Model.Periodic
import Mathlib.Data.Rat.Floor
import Mathlib.Tactic.Linarith
import Mathlib.Algebra.Order.Field.Rat

namespace Cobald.Periodic
open Cobald.Controllers

theorem actTime_le_iff (pre : Bool) (i T : Rat) (hi : 0 < i) (k : Nat) :
    actTime pre i k ≤ T ↔ (k : Int) + (if pre then 1 else 0) ≤ ⌊T / i⌋ := by
  rw [Int.le_floor, le_div_iff₀ hi]
  cases pre <;> simp [actTime]

theorem abs_sub_seq (d : Nat → Rat) (B : Rat) (hB : ∀ k, |d (k + 1) - d k| ≤ B) :
    ∀ m n, m ≤ n → |d n - d m| ≤ ((n : Rat) - m) * B := by
  intro m n hmn
  induction n, hmn using Nat.le_induction with
  | base => simp
  | succ n _ ih =>
    have h2 := hB n
    have h3 := abs_sub_le (d (n + 1)) (d n) (d m)
    push_cast
    linarith

/-- sampled at the last step at or before `t1` and `t2`, steps being `i` apart, such a sequence
has moved by at most `B` per interval begun -/
theorem abs_sub_floor_le (d : Nat → Rat) (B i : Rat) (hi : 0 < i)
    (hB : ∀ k, |d (k + 1) - d k| ≤ B) (t1 t2 : Rat) (h0 : 0 ≤ t1) (h12 : t1 ≤ t2) :
    |d ⌊t2 / i⌋.toNat - d ⌊t1 / i⌋.toNat| ≤ ((t2 - t1) / i + 1) * B := by
  have h1 : 0 ≤ t1 / i := div_nonneg h0 hi.le
  have h12' : t1 / i ≤ t2 / i := div_le_div_of_nonneg_right h12 hi.le
  rw [Int.floor_toNat, Int.floor_toNat]
  refine (abs_sub_seq d B hB _ _ (Nat.floor_le_floor h12')).trans
    (mul_le_mul_of_nonneg_right ?_ ((abs_nonneg _).trans (hB 0)))
  have e1 := Nat.floor_le (h1.trans h12')
  have e2 := Nat.lt_floor_add_one (t1 / i)
  rw [sub_div]
  linarith

theorem setPool_demand (p : Pool) (f : Nat) (x : Rat) : (setPool p f x).demand = p.demand := by
  unfold setPool; split <;> rfl

/-- if the step function moves demand by at most `B`, so does every event of a timed history:
the environment's events leave demand alone -/
theorem runCtl_chain (stepFn : Pool → Pool) (B : Rat)
    (hB : ∀ p, |(stepFn p).demand - p.demand| ≤ B) :
    ∀ (es : List Ev) (p : Pool),
      List.IsChain (fun a b : Pool => |b.demand - a.demand| ≤ B) (p :: runCtl stepFn p es)
  | [], _ => .singleton _
  | .step :: es, p => .cons_cons (hB p) (runCtl_chain stepFn B hB es _)
  | .env f x :: es, p =>
    .cons_cons (by simpa [setPool_demand] using (abs_nonneg _).trans (hB p))
      (runCtl_chain stepFn B hB es _)
  | .write _ :: es, p =>
    .cons_cons (by simpa using (abs_nonneg _).trans (hB p)) (runCtl_chain stepFn B hB es _)

/-- without a window boundary nothing reaches the target -/
theorem runBuf_target (es : List Ev) (h : ∀ e ∈ es, e matches .step → False) :
    ∀ (b : BufSt), ∀ s ∈ runBuf b es, s.target = b.target := by
  induction es with
  | nil => intro b s hs; cases hs
  | cons e es ih =>
    obtain ⟨he, ht⟩ := List.forall_mem_cons.mp h
    intro b s hs
    cases e with
    | step => exact (he rfl).elim
    | env f x => exact (List.mem_cons.mp hs).elim (· ▸ rfl) (ih ht b s)
    | write x => exact (List.mem_cons.mp hs).elim (· ▸ rfl) (ih ht { b with stored := x } s)

end Cobald.Periodic
