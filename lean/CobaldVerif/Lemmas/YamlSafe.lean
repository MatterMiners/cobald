/-
Lemmas for PyYAML's constructor dispatch (C18): `construct` is determined by the tags of the
document alone, dispatched one after the other in document order (`dispatchAll`).
-/
import CobaldVerif.Model.YamlSafe

namespace Cobald.YamlSafe

/-- the constructor calls for a list of tags: `none` if one of them dispatches to
`construct_undefined`, else one call per tag that dispatches to anything, in order -/
def dispatchAll (L : Loader) (ts : List Tag) : Option (List Call) :=
  if ts.any (fun t => dispatch L t == some .undefined) then none
  else some (ts.filterMap fun t => (dispatch L t).map ({ tag := t, kind := · }))

theorem dispatchAll_append (L : Loader) (a b : List Tag) :
    dispatchAll L (a ++ b) =
      match dispatchAll L a, dispatchAll L b with
      | some x, some y => some (x ++ y)
      | _, _ => none := by
  unfold dispatchAll
  rw [List.any_append, List.filterMap_append]
  cases a.any _ <;> cases b.any _ <;> rfl

theorem dispatchAll_singleton (L : Loader) (t : Tag) :
    dispatchAll L [t] =
      match dispatch L t with
      | some .undefined => none
      | some k => some [{ tag := t, kind := k }]
      | none => some [] := by
  simp only [dispatchAll, List.any_cons, List.any_nil, Bool.or_false, List.filterMap_cons,
    List.filterMap_nil]
  rcases dispatch L t with _ | (_ | _ | _ | _) <;> rfl

mutual
theorem construct_eq (L : Loader) : ∀ n : Node, construct L n = dispatchAll L (tags n)
  | .scalar t => by rw [construct, tags, dispatchAll_singleton]; rfl
  | .seq t items => by
      rw [construct, tags, ← List.singleton_append, dispatchAll_append, dispatchAll_singleton,
        ← constructList_eq L items]
      rcases dispatch L t with _ | (_ | _ | _ | _) <;> rcases constructList L items with _ | l <;> rfl
  | .map t items => by
      rw [construct, tags, ← List.singleton_append, dispatchAll_append, dispatchAll_singleton,
        ← constructPairs_eq L items]
      rcases dispatch L t with _ | (_ | _ | _ | _) <;> rcases constructPairs L items with _ | l <;> rfl
theorem constructList_eq (L : Loader) : ∀ ns : List Node, constructList L ns = dispatchAll L (tagsList ns)
  | [] => rfl
  | n :: ns => by
      rw [constructList, tagsList, dispatchAll_append, ← construct_eq L n, ← constructList_eq L ns]
      rcases construct L n with _ | l1 <;> rcases constructList L ns with _ | l2 <;> rfl
theorem constructPairs_eq (L : Loader) : ∀ ps : List (Node × Node),
    constructPairs L ps = dispatchAll L (tagsPairs ps)
  | [] => rfl
  | (k, v) :: ps => by
      rw [constructPairs, tagsPairs, dispatchAll_append, dispatchAll_append, ← construct_eq L k,
        ← construct_eq L v, ← constructPairs_eq L ps]
      rcases construct L k with _ | l1 <;> rcases construct L v with _ | l2 <;>
        rcases constructPairs L ps with _ | l3 <;> rfl
end

theorem dispatchAll_eq_none (L : Loader) (ts : List Tag) (t : Tag) (ht : t ∈ ts)
    (hd : dispatch L t = some .undefined) : dispatchAll L ts = none :=
  if_pos (List.any_eq_true.2 ⟨t, ht, by simp [hd]⟩)

theorem dispatchAll_eq_some (L : Loader) (ts : List Tag) (log : List Call) (h : dispatchAll L ts = some log) :
    ∀ c ∈ log, c.tag ∈ ts ∧ dispatch L c.tag = some c.kind ∧ c.kind ≠ .undefined := by
  unfold dispatchAll at h
  split at h
  · cases h
  next hany =>
    cases h
    intro c hc
    obtain ⟨t, ht, hc⟩ := List.mem_filterMap.1 hc
    obtain ⟨k, hk, rfl⟩ := Option.map_eq_some_iff.1 hc
    exact ⟨ht, hk, fun e => hany (List.any_eq_true.2 ⟨t, ht, by simp [hk, show k = .undefined from e]⟩)⟩

theorem lookup_none_of_all (p : Tag → Bool) (t : Tag) (hp : p t = false) :
    ∀ (l : List (Tag × Kind)), l.all (fun e => p e.1) = true → lookup t l = none
  | [], _ => rfl
  | (k, v) :: r, h => by
      simp only [List.all_cons, Bool.and_eq_true] at h
      simp only [lookup]
      by_cases hk : k = t
      · subst hk; simp [hp] at h
      · simp [hk, lookup_none_of_all p t hp r h.2]

end Cobald.YamlSafe
