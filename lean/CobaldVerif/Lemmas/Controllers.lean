import CobaldVerif.Model.Controllers
import Mathlib.Algebra.Order.Field.Rat

namespace Cobald.Controllers

theorem linearStep_demand (c : Linear) (i : Rat) (p : Pool) :
    (linearStep c i p).demand =
      if p.util < c.low then p.demand - i * c.rate
      else if c.high < p.alloc then p.demand + i * c.rate else p.demand := by
  simp only [linearStep, apply_ite Pool.demand]

theorem relStep_demand (c : RelSupply) (p : Pool) :
    (relStep c p).demand =
      if p.util < c.low then p.supply * c.lowScale
      else if c.high < p.alloc then p.supply * c.highScale else p.supply := by
  simp only [relStep, apply_ite Pool.demand]

section
variable (x : Rat × Nat) (l : List (Rat × Nat))

theorem insertSorted_perm : (insertSorted x l).Perm (x :: l) := by
  induction l with
  | nil => exact .refl _
  | cons y ys ih =>
    unfold insertSorted
    split_ifs
    · exact .refl _
    · exact (ih.cons y).trans (.swap x y ys)

theorem sortRules_perm : (sortRules l).Perm l := by
  induction l with
  | nil => exact .refl _
  | cons x xs ih => exact (insertSorted_perm x _).trans (ih.cons x)

theorem mem_sortRules : x ∈ sortRules l ↔ x ∈ l :=
  (sortRules_perm l).mem_iff

theorem sorted_insertSorted (hl : l.Pairwise (fun a b => a.1 ≤ b.1)) :
    (insertSorted x l).Pairwise (fun a b => a.1 ≤ b.1) := by
  induction l with
  | nil => simp [insertSorted]
  | cons z zs ih =>
    obtain ⟨hz, hzs⟩ := List.pairwise_cons.mp hl
    unfold insertSorted
    split_ifs with h
    · refine .cons (fun y hy => ?_) hl
      rcases List.mem_cons.mp hy with rfl | hy
      · exact h.le
      · exact h.le.trans (hz y hy)
    · refine .cons (fun y hy => ?_) (ih hzs)
      rcases List.mem_cons.mp ((insertSorted_perm x zs).mem_iff.mp hy) with rfl | hy
      · exact not_lt.mp h
      · exact hz y hy

theorem sorted_sortRules : (sortRules l).Pairwise (fun a b => a.1 ≤ b.1) := by
  induction l with
  | nil => exact .nil
  | cons x xs ih => exact sorted_insertSorted x _ ih

theorem strict_sortRules (hnd : (l.map (·.1)).Nodup) :
    (sortRules l).Pairwise (fun a b => a.1 < b.1) := by
  have hne : (sortRules l).Pairwise (fun a b => a.1 ≠ b.1) :=
    List.pairwise_map.mp (((sortRules_perm l).map _).nodup_iff.mpr hnd)
  exact ((sorted_sortRules l).and hne).imp fun h => lt_of_le_of_ne h.1 h.2

end

theorem switchSelect_cons (d : Nat) (y : Rat × Nat) (ys : List (Rat × Nat)) (x : Rat) :
    switchSelect d (y :: ys) x = switchSelect (if y.1 ≤ x then y.2 else d) ys x :=
  List.foldl_cons ..

theorem select_none (d : Nat) (l : List (Rat × Nat)) (x : Rat) (h : ∀ y ∈ l, x < y.1) :
    switchSelect d l x = d := by
  induction l with
  | nil => rfl
  | cons y ys ih =>
    obtain ⟨hy, ht⟩ := List.forall_mem_cons.mp h
    rw [switchSelect_cons, if_neg (not_le.mpr hy), ih ht]

theorem select_greatest (d : Nat) (l : List (Rat × Nat)) (x : Rat)
    (hs : l.Pairwise (fun a b => a.1 < b.1)) (t : Rat) (r : Nat) (hm : (t, r) ∈ l) (htx : t ≤ x)
    (hmax : ∀ y ∈ l, y.1 ≤ x → y.1 ≤ t) : switchSelect d l x = r := by
  induction l generalizing d with
  | nil => cases hm
  | cons y ys ih =>
    obtain ⟨hy, hys⟩ := List.pairwise_cons.mp hs
    obtain ⟨-, hmax'⟩ := List.forall_mem_cons.mp hmax
    rw [switchSelect_cons]
    rcases List.mem_cons.mp hm with rfl | hm'
    · -- every later threshold is above `t`, hence, `t` being the greatest one ≤ x, above `x`
      rw [if_pos htx]
      exact select_none _ ys x fun z hz => lt_of_not_ge fun hzx =>
        absurd (hy z hz) (not_lt.mpr (hmax' z hz hzx))
    · exact ih _ hys hm' hmax'

theorem getRule_mkRanges (low : Rat) (r : Nat) (l : List (Rat × Nat)) (s : Rat) (hls : low ≤ s)
    (hs : l.Pairwise (fun a b => a.1 ≤ b.1)) :
    getRule (mkRanges low r l) s = some (switchSelect r l s) := by
  induction l generalizing low r with
  | nil => simp [mkRanges, getRule, hls, belowHigh, switchSelect]
  | cons y ys ih =>
    obtain ⟨t, r'⟩ := y
    obtain ⟨hy, hys⟩ := List.pairwise_cons.mp hs
    simp only [mkRanges, getRule, belowHigh, hls, true_and, decide_eq_true_eq]
    split_ifs with h
    · have : ∀ z ∈ (t, r') :: ys, s < z.1 :=
        List.forall_mem_cons.mpr ⟨h, fun z hz => h.trans_le (hy z hz)⟩
      rw [select_none r _ s this]
    · rw [ih t r' (not_lt.mp h) hys, switchSelect_cons, if_pos (not_lt.mp h)]

theorem compile_eq_some {base : RuleId} {rules : List (Rat × RuleId)} {l : Lookup}
    (hc : compile base rules = some l) : l = mkRanges 0 base (sortRules rules) := by
  unfold compile at hc
  simp only at hc
  split_ifs at hc
  exact (Option.some.inj hc).symm

/-- Stepwise's lookup in a compiled table is DemandSwitch's selection among the same thresholds:
for a supply that is not negative, the rule of the last sorted threshold ≤ supply, else `base` -/
theorem getRule_compile {base : RuleId} {rules : List (Rat × RuleId)} {l : Lookup}
    (hc : compile base rules = some l) (s : Rat) (hs : 0 ≤ s) :
    getRule l s = some (switchSelect base (sortRules rules) s) := by
  rw [compile_eq_some hc]
  exact getRule_mkRanges 0 base _ s hs (sorted_sortRules rules)

end Cobald.Controllers
