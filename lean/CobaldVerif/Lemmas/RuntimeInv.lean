/-
The invariant of the runtime LTS, in four groups, and its lift to every reachable state.

Preservation is proved per group by cases on the transition (`Step`). Each group comes with a few
moves - changes of the state that preserve it under stated side conditions (`InvA.frame`,
`InvA.setLatch`, `InvC.mapPay`, `InvC.claim`, …) - and an event is a composition of such moves: the
case of an event says which moves it is made of, and every fact about the invariant's clauses is
in the proof of a move.
-/
import CobaldVerif.Lemmas.Runtime

namespace Cobald.Runtime

/-- failure bookkeeping (C01): latches, runner tasks, what `gather` saw, the result -/
structure InvA (s : St) : Prop where
  latch_done : ∀ f p, s.latch f = .failed p → ∃ o, s.pay p = .done o ∧ o.failing = true
  rtask_err : ∀ f p, s.rtask f = .err p → s.latch f = .failed p
  rtask_ok : ∀ f, s.rtask f = .ok → s.latch f = .closed
  quiet_open : s.quiet → ∀ f, s.latch f ≠ .closed
  failed_latch : s.failedQuiet ≠ [] →
    (s.latch .aio).isFailed = true ∨ (s.latch .trio).isFailed = true ∨ (s.latch .thr).isFailed = true
  gather_raised : ∀ p, s.gather = .raised p → (∃ f, s.rtask f = .err p) ∨ s.pay p = .done .sysExit
  gather_completed : s.gather = .completed → ∀ f, s.rtask f = .ok
  ended_returned : s.phase = .ended .returned →
    s.gather = .completed ∨ s.gather = .interrupted ∨ ∃ p, s.gather = .raised p ∧ s.pay p = .done .kbd
  ended_rt : ∀ p, s.phase = .ended (.raisedRT p) →
    s.gather = .raised p ∧ ∃ o, s.pay p = .done o ∧ (o = .exc ∨ o = .value)
  ended_base : ∀ p, s.phase = .ended (.raisedBase p) →
    s.gather = .raised p ∧ (s.pay p = .done .baseExc ∨ s.pay p = .done .sysExit ∨ s.pay p = .done .kbd)
  done_stays : ∀ p o, s.pay p = .done o → True

/-- the `exclusive` guard of accept (C12) -/
structure InvB (s : St) : Prop where
  guard_phase : s.guard = none ↔ s.phase.restartable = true

def PSt.notStarted : PSt → Bool
  | .absent | .queued | .unit | .submitted | .discarded => true
  | _ => false

/-- registration and threads (C02 C03 C11) -/
structure InvC (s : St) : Prop where
  starts_once : ∀ p, (s.starts p = 0 ∧ (s.pay p).notStarted = true) ∨ (s.starts p = 1 ∧ (s.pay p).notStarted = false)
  pids_mem : ∀ p, s.pay p ≠ .absent → p ∈ s.pids
  co_busy_up : ∀ p, (s.fl p).isCo = true → s.coBusy p = true → s.phase = .up
  co_thread_aio : ∀ p, s.pay p = .running → s.fl p = .aio → s.tid p = s.loopTid ∧ s.loopTid ≠ none
  co_thread_trio : ∀ p, s.pay p = .running → s.fl p = .trio → s.tid p = s.trioTid ∧ s.trioTid ≠ none
  tids_distinct : ∀ t, s.loopTid = some t → s.trioTid ≠ some t
  thr_distinct : ∀ t, t ∈ s.thrTids → s.loopTid ≠ some t ∧ s.trioTid ≠ some t

/-- what `gather` has seen is consistent with the runner tasks (progress, C01 C02 C12) -/
structure InvD (s : St) : Prop where
  cancelled_seen : ∀ f, s.rtask f = .cancelled → s.gather ≠ .pending
  done_keeps : True

structure Inv (s : St) : Prop where
  a : InvA s
  b : InvB s
  c : InvC s
  d : InvD s

theorem inv_init : Inv St.init :=
  ⟨by constructor <;> simp [St.init, St.quiet], ⟨by simp [St.init, Phase.restartable]⟩,
   by constructor <;> simp [St.init, St.coBusy, PSt.notStarted], by constructor <;> simp [St.init]⟩

/-- a recorded outcome survives a change of a payload whose outcome is not recorded yet -/
theorem upd_done {pay : Nat → PSt} {p : Nat} {x : PSt} (y : PSt) (hx : pay p = x) (hd : ∀ o, x ≠ .done o)
    {q : Nat} {o : Out} (h : pay q = .done o) : upd pay p y q = .done o := by
  have : q ≠ p := fun hq => hd o (hx ▸ hq ▸ h)
  simp [upd, this, h]

/-- `InvA` reads the payloads only through their recorded outcomes, and only positively: an event
that keeps those, the latches, the runner tasks and what `gather` saw preserves it -/
theorem InvA.frame {s s' : St} (h : InvA s) (hd : ∀ p o, s.pay p = .done o → s'.pay p = .done o)
    (hl : s'.latch = s.latch := by rfl) (hr : s'.rtask = s.rtask := by rfl) (hg : s'.gather = s.gather := by rfl)
    (hf : s'.failedQuiet = s.failedQuiet := by rfl) (hq : s'.quiet → s.quiet := by exact id)
    (hp : ∀ r, s'.phase = .ended r → s.phase = .ended r := by exact fun _ => id) : InvA s' := by
  refine ⟨?_, ?_, ?_, ?_, ?_, ?_, ?_, ?_, ?_, ?_, fun _ _ _ => trivial⟩ <;> simp only [hl, hr, hg, hf]
  · exact fun f p hf => (h.latch_done f p hf).imp fun o ho => ⟨hd p o ho.1, ho.2⟩
  · exact h.rtask_err
  · exact h.rtask_ok
  · exact fun hq' => h.quiet_open (hq hq')
  · exact h.failed_latch
  · exact fun p hp' => (h.gather_raised p hp').imp_right (hd p _)
  · exact h.gather_completed
  · exact fun he => (h.ended_returned (hp _ he)).imp_right (Or.imp_right fun ⟨p, hp1, hp2⟩ => ⟨p, hp1, hd p _ hp2⟩)
  · exact fun p he => (h.ended_rt p (hp _ he)).imp_right fun ⟨o, ho, h'⟩ => ⟨o, hd p o ho, h'⟩
  · exact fun p he => (h.ended_base p (hp _ he)).imp_right (Or.imp (hd p _) (Or.imp (hd p _) (hd p _)))

/-- an open latch fails for a payload with a recorded failure, or is closed while not quiet -/
theorem InvA.setLatch {s : St} (h : InvA s) (f : Flav) (l : Latch)
    (hl : ∀ q, l = .failed q → ∃ o, s.pay q = .done o ∧ o.failing = true) (hc : l = .closed → ¬s.quiet) :
    InvA { s with latch := setOpen s.latch f l } :=
  have keep : ∀ {g x}, s.latch g = x → x ≠ .opened → setOpen s.latch f l g = x :=
    fun hg hx => (setOpen_of_ne (hg ▸ hx) f l).trans hg
  { h with
    latch_done := fun g q (hg : setOpen s.latch f l g = .failed q) => by
      rw [setOpen_apply] at hg
      split at hg
      · exact hl q hg
      · exact h.latch_done g q hg
    rtask_err := fun g q hg => keep (h.rtask_err g q hg) nofun
    rtask_ok := fun g hg => keep (h.rtask_ok g hg) nofun
    quiet_open := fun hq g (hg : setOpen s.latch f l g = .closed) => by
      rw [setOpen_apply] at hg
      split at hg
      · exact hc hg hq
      · exact h.quiet_open hq g hg
    failed_latch := fun hf =>
      have mono : ∀ g, (s.latch g).isFailed = true → (setOpen s.latch f l g).isFailed = true := fun g hg => by
        rwa [setOpen_of_ne (fun h' => by simp [h', Latch.isFailed] at hg)]
      (h.failed_latch hf).imp (mono _) (Or.imp (mono _) (mono _)) }

/-- a running runner task ends the way its latch says -/
theorem InvA.setRtask {s : St} (h : InvA s) (f : Flav) (r : RTask) (hr : s.rtask f = .running)
    (he : ∀ p, r = .err p → s.latch f = .failed p) (ho : r = .ok → s.latch f = .closed) :
    InvA { s with rtask := step.upd' s.rtask f r } :=
  { h with
    rtask_err := fun g p (hg : step.upd' s.rtask f r g = .err p) => by
      rw [upd'_apply] at hg
      split at hg
      · subst g; exact he p hg
      · exact h.rtask_err g p hg
    rtask_ok := fun g (hg : step.upd' s.rtask f r g = .ok) => by
      rw [upd'_apply] at hg
      split at hg
      · subst g; exact ho hg
      · exact h.rtask_ok g hg
    gather_raised := fun p hp => (h.gather_raised p hp).imp_left fun ⟨g, hg⟩ =>
      ⟨g, show step.upd' s.rtask f r g = .err p by
        rw [upd'_apply, if_neg (fun hgf => by rw [hgf, hr] at hg; cases hg), hg]⟩
    gather_completed := fun hc => by
      have := h.gather_completed hc f
      rw [hr] at this; cases this }

theorem InvA.cancel {s : St} (h : InvA s) : InvA { s with rtask := cancelRunning s.rtask } :=
  { h with
    rtask_err := fun g p hg => h.rtask_err g p (cancelRunning_err.1 hg)
    rtask_ok := fun g hg => h.rtask_ok g (cancelRunning_ok.1 hg)
    gather_raised := fun p hp => (h.gather_raised p hp).imp_left fun ⟨g, hg⟩ => ⟨g, cancelRunning_err.2 hg⟩
    gather_completed := fun hc g => cancelRunning_ok.2 (h.gather_completed hc g) }

/-- while the run is up `gather` may come to see an interrupt, a runner's failure, a SystemExit
that killed the loop, or - with every runner task over without error - completion -/
theorem InvA.setGather {s : St} (h : InvA s) (hp : s.phase = .up) (g : Gather) (hg : g ≠ .pending)
    (hr : ∀ p, g = .raised p → (∃ f, s.rtask f = .err p) ∨ s.pay p = .done .sysExit)
    (hc : g = .completed → ∀ f, s.rtask f = .ok) : InvA { s with gather := g } :=
  { h with
    quiet_open := fun hq => absurd hq.2 hg
    gather_raised := hr
    gather_completed := hc
    ended_returned := fun he => by rw [show s.phase = _ from he] at hp; cases hp
    ended_rt := fun p he => by rw [show s.phase = _ from he] at hp; cases hp
    ended_base := fun p he => by rw [show s.phase = _ from he] at hp; cases hp }

/-- what `gather` raised is a recorded failure -/
theorem InvA.cause {s : St} (h : InvA s) {p : Nat} (hg : s.gather = .raised p) : ∃ o, s.pay p = .done o ∧ o.failing = true :=
  (h.gather_raised p hg).elim (fun ⟨f, hf⟩ => h.latch_done f p (h.rtask_err f p hf)) fun hx => ⟨_, hx, rfl⟩

/-- the run ends with a result that `resultOK` admits for what `gather` saw -/
theorem InvA.endRun {s : St} (h : InvA s) {r : Res} (hg : s.gather ≠ .pending) (hres : s.resultOK r = true) :
    InvA { s with phase := .ended r, guard := none } :=
  { h with
    ended_returned := fun he => by
      cases he
      cases hgth : s.gather with
      | pending => exact absurd hgth hg
      | completed => exact .inl rfl
      | interrupted => exact .inr (.inl rfl)
      | raised p => exact .inr (.inr ⟨p, rfl, resultOK_returned hres p hgth⟩)
    ended_rt := fun p he => by
      cases he
      obtain ⟨hgth, h1, h2, h3⟩ := resultOK_raisedRT hres
      obtain ⟨o, ho, hfail⟩ := h.cause hgth
      refine ⟨hgth, o, ho, ?_⟩
      cases o with
      | none => cases hfail
      | value => exact .inr rfl
      | exc => exact .inl rfl
      | baseExc => exact absurd ho h1
      | sysExit => exact absurd ho h2
      | kbd => exact absurd ho h3
    ended_base := fun p he => by cases he; exact resultOK_raisedBase hres }

theorem InvA.step {s s' : St} {e : Ev} (h : InvA s) (hs : Step s e s') : InvA s' := by
  cases hs
  case acceptBegin => constructor <;> simp [St.quiet]
  case recordKill p o he hp hk hf hl =>
    have h1 : InvA { s with pay := upd s.pay p (.done o) } :=
      h.frame fun _ _ => upd_done _ he nofun
    have h2 := (h1.setLatch (s.fl p) (.failed p)
      (fun q hq => ⟨o, by cases hq; simp [upd], by rcases Out.loopKiller_cases hk with rfl | rfl <;> rfl⟩) nofun).cancel
    rcases Out.loopKiller_cases hk with rfl | rfl
    · exact h2.setGather hp _ nofun nofun nofun
    · exact h2.setGather hp _ nofun (fun q hq => by cases hq; exact .inr (by simp [upd])) nofun
  case recordFail p o he hp hk hf =>
    have h1 : InvA { s with pay := upd s.pay p (.done o) } :=
      h.frame fun _ _ => upd_done _ he nofun
    have h2 := h1.setLatch (s.fl p) (.failed p) (fun q hq => ⟨o, by cases hq; simp [upd], hf⟩) nofun
    exact { h2 with
      failed_latch := fun hne => by
        by_cases hc : s.quiet ∧ s.latch (s.fl p) = .opened ∧ o ≠ .kbd
        · refine flav_exists (P := fun f => (setOpen s.latch (s.fl p) (.failed p) f).isFailed = true) (s.fl p) ?_
          rw [setOpen_apply, if_pos ⟨rfl, hc.2.1⟩]; rfl
        · exact h2.failed_latch (by simpa [hc] using hne) }
  case sigint hp hg => exact h.cancel.setGather hp _ nofun nofun nofun
  case close f hp hc => exact h.setLatch f .closed nofun fun _ hq => hc.elim (by simp [hq.1]) (absurd hq.2)
  case rtaskErr f p hp hr hl => exact h.setRtask f _ hr (fun q hq => by cases hq; exact hl) nofun
  case rtaskOk f hp hr hl => exact h.setRtask f _ hr nofun fun _ => hl
  case gatherRaise f p hr hg hp => exact h.setGather hp _ nofun (fun q hq => by cases hq; exact .inl ⟨f, hr⟩) nofun
  case gatherDone hp hg hr => exact h.setGather hp _ nofun nofun fun _ => hr
  case endRun r _ hg _ _ _ hres => exact h.endRun hg hres
  case acceptReject | shutdownIdle => exact h
  case launch => exact h.frame (fun _ _ => id) (hp := nofun)
  case shutdownUp => exact h.frame (fun _ _ => id) (hq := fun hq => nomatch hq.1)
  case hold | execBegin | execEnd => exact h.frame fun _ _ => id
  case flush => exact h.frame fun q o hq => by simp [hq]
  case start p t hg ht => exact h.frame fun _ _ => upd_done _ rfl fun o ho => by simp [ho] at hg
  case adoptQueued p f ha _ | adoptUp p f ha _ | newUnit p f ha | sweep p _ ha _ _ | bodyEnd p o ha | recordOnly p o ha _ |
      unwound p ha _ _ | discard p ha _ | dropUnit p ha _ =>
    exact h.frame fun _ _ => upd_done _ ha nofun

theorem InvB.step {s s' : St} {e : Ev} (h : InvB s) (hs : Step s e s') : InvB s' := by
  cases hs
  case acceptBegin => exact ⟨by simp [Phase.restartable]⟩
  case launch hp => exact ⟨by simpa [hp, Phase.restartable] using h.1⟩
  case endRun => exact ⟨by simp [Phase.restartable]⟩
  all_goals exact ⟨h.1⟩

theorem InvD.step {s s' : St} {e : Ev} (h : InvD s) (hs : Step s e s') : InvD s' := by
  cases hs
  case acceptBegin => exact ⟨nofun, trivial⟩
  case recordKill => exact ⟨fun _ _ => by split <;> simp, trivial⟩
  case sigint | gatherRaise | gatherDone => exact ⟨fun _ _ => nofun, trivial⟩
  case rtaskErr f p _ _ _ | rtaskOk f _ _ _ =>
    refine ⟨fun g (hg : step.upd' s.rtask f _ g = .cancelled) => ?_, trivial⟩
    rw [upd'_apply] at hg
    split at hg
    · cases hg
    · exact h.1 g hg
  all_goals exact ⟨h.1, trivial⟩

/-- the two thread clauses as one: a running coroutine payload runs on the thread of its flavour -/
theorem InvC.co_thread {s : St} (h : InvC s) {p : Nat} (hr : s.pay p = .running) (hco : (s.fl p).isCo = true) :
    s.tid p = s.flavTid (s.fl p) ∧ s.flavTid (s.fl p) ≠ none := by
  cases hf : s.fl p with
  | aio => exact h.co_thread_aio p hr hf
  | trio => exact h.co_thread_trio p hr hf
  | thr => rw [hf] at hco; cases hco

/-- registered payloads move on to states in which they do not run: towards their start, or
from running to the end -/
theorem InvC.mapPay {s : St} (h : InvC s) (pay' : Nat → PSt)
    (hpay : ∀ q, pay' q = s.pay q ∨ s.pay q ≠ .absent ∧ (pay' q).notStarted = (s.pay q).notStarted ∧
      pay' q ≠ .running ∧ ∀ o, pay' q = .ended o → s.pay q = .running) :
    InvC { s with pay := pay' } := by
  refine { h with starts_once := fun q => ?_, pids_mem := fun q => ?_, co_busy_up := fun q hco => ?_,
                  co_thread_aio := fun q => ?_, co_thread_trio := fun q => ?_ }
  all_goals dsimp only [St.coBusy]; rcases hpay q with heq | ⟨hab, hns, hnr, hen⟩
  all_goals try rw [heq]
  · exact h.starts_once q
  · rw [hns]; exact h.starts_once q
  · exact h.pids_mem q
  · exact fun _ => h.pids_mem q hab
  · exact h.co_busy_up q hco
  · intro hb
    refine h.co_busy_up q hco ?_
    unfold St.coBusy
    split at hb
    · exact absurd ‹_› hnr
    · rw [hen _ ‹_›]
    · cases hb
  · exact h.co_thread_aio q
  · exact fun hr => absurd hr hnr
  · exact h.co_thread_trio q
  · exact fun hr => absurd hr hnr

theorem InvC.setPay {s : St} (h : InvC s) {p : Nat} {x : PSt} (y : PSt) (hx : s.pay p = x) (hab : x ≠ .absent)
    (hns : y.notStarted = x.notStarted) (hnr : y ≠ .running) (hen : ∀ o, y = .ended o → x = .running) :
    InvC { s with pay := upd s.pay p y } :=
  h.mapPay _ fun q => by
    by_cases hq : q = p
    · subst hq; rw [upd_apply, if_pos rfl, hx]; exact .inr ⟨hab, hns, hnr, hen⟩
    · rw [upd_apply, if_neg hq]; exact .inl rfl

/-- a fresh payload is registered in a state `y` in which it has not started -/
theorem InvC.register {s : St} (h : InvC s) {p : Nat} (ha : s.pay p = .absent) (y : PSt) (hy : y.notStarted = true)
    (f : Flav) : InvC { s with pay := upd s.pay p y, fl := upd s.fl p f, pids := p :: s.pids } := by
  refine { h with starts_once := fun q => ?_, pids_mem := fun q => ?_, co_busy_up := fun q => ?_,
                  co_thread_aio := fun q => ?_, co_thread_trio := fun q => ?_ }
  all_goals dsimp only [St.coBusy]; by_cases hq : q = p
  all_goals first | subst hq; simp only [upd, if_pos] | simp only [upd, if_neg hq]
  · rcases h.starts_once q with ⟨h0, _⟩ | ⟨_, h1⟩
    · exact .inl ⟨h0, hy⟩
    · rw [ha] at h1; cases h1
  · exact h.starts_once q
  · exact fun _ => List.mem_cons_self
  · exact fun hne => List.mem_cons_of_mem _ (h.pids_mem q hne)
  · intro _ hb
    cases y <;> simp_all [PSt.notStarted]
  · exact h.co_busy_up q
  · intro hr; rw [hr] at hy; cases hy
  · exact h.co_thread_aio q
  · intro hr; rw [hr] at hy; cases hy
  · exact h.co_thread_trio q

/-- flavour `f` claims thread `t`, which `tidOK` admits -/
theorem InvC.claim {s : St} (h : InvC s) (f : Flav) (t : Nat) (ht : s.tidOK f t = true) :
    InvC { s with loopTid := if f = .aio then some t else s.loopTid,
                  trioTid := if f = .trio then some t else s.trioTid,
                  thrTids := if f = .thr then t :: s.thrTids else s.thrTids } := by
  cases f
  · obtain ⟨hl, ht2, ht3⟩ := tidOK_aio.1 ht
    exact { h with
      co_thread_aio := fun q hr hf =>
        have ⟨h1, h2⟩ := h.co_thread_aio q hr hf
        ⟨h1.trans (hl.resolve_left h2), nofun⟩
      tids_distinct := fun u hu => by cases hu; exact ht2
      thr_distinct := fun u hu => ⟨fun hu' => by cases hu'; exact ht3 hu, (h.thr_distinct u hu).2⟩ }
  · obtain ⟨hl, ht2, ht3⟩ := tidOK_trio.1 ht
    exact { h with
      co_thread_trio := fun q hr hf =>
        have ⟨h1, h2⟩ := h.co_thread_trio q hr hf
        ⟨h1.trans (hl.resolve_left h2), nofun⟩
      tids_distinct := fun u hu hu' => by cases hu'; exact ht2 hu
      thr_distinct := fun u hu => ⟨(h.thr_distinct u hu).1, fun hu' => by cases hu'; exact ht3 hu⟩ }
  · exact { h with
      thr_distinct := fun u hu => by
        rcases List.mem_cons.1 hu with rfl | hu
        · exact tidOK_thr.1 ht
        · exact h.thr_distinct u hu }

/-- a payload that is waiting to start begins to run on thread `t`, the thread of its flavour -/
theorem InvC.run {s : St} (h : InvC s) {p t : Nat} (hx : s.pay p = .submitted ∨ s.pay p = .queued)
    (hup : (s.fl p).isCo = true → s.phase = .up) (hta : s.fl p = .aio → s.loopTid = some t)
    (htt : s.fl p = .trio → s.trioTid = some t) :
    InvC { s with pay := upd s.pay p .running, starts := upd s.starts p (s.starts p + 1), tid := upd s.tid p (some t) } := by
  have hns : (s.pay p).notStarted = true := by rcases hx with hx | hx <;> rw [hx] <;> rfl
  refine { h with starts_once := fun q => ?_, pids_mem := fun q => ?_, co_busy_up := fun q => ?_,
                  co_thread_aio := fun q => ?_, co_thread_trio := fun q => ?_ }
  all_goals dsimp only [St.coBusy]; by_cases hq : q = p
  all_goals first | subst hq; simp only [upd, if_pos] | simp only [upd, if_neg hq]
  · rcases h.starts_once q with ⟨h0, _⟩ | ⟨_, hn⟩
    · exact .inr ⟨by rw [h0], rfl⟩
    · rw [hns] at hn; cases hn
  · exact h.starts_once q
  · exact fun _ => h.pids_mem q fun ha => by rw [ha] at hx; simp at hx
  · exact h.pids_mem q
  · exact fun hco _ => hup hco
  · exact h.co_busy_up q
  · exact fun _ hf => ⟨(hta hf).symm, by rw [hta hf]; nofun⟩
  · exact h.co_thread_aio q
  · exact fun _ hf => ⟨(htt hf).symm, by rw [htt hf]; nofun⟩
  · exact h.co_thread_trio q

/-- outside a run no coroutine payload is busy, so the threads can be forgotten -/
theorem InvC.reset {s : St} (h : InvC s) (hp : s.phase.restartable = true) (ph : Phase) :
    InvC { s with phase := ph, loopTid := none, trioTid := none, thrTids := [] } :=
  have idle {q} (hco : (s.fl q).isCo = true) (hb : s.coBusy q = true) : False := by
    rw [h.co_busy_up q hco hb] at hp; cases hp
  { h with
    co_busy_up := fun q hco hb => (idle hco hb).elim
    co_thread_aio := fun q (hr : s.pay q = .running) (hf : s.fl q = .aio) =>
      (idle (q := q) (by rw [hf]; rfl) (by rw [St.coBusy, hr])).elim
    co_thread_trio := fun q (hr : s.pay q = .running) (hf : s.fl q = .trio) =>
      (idle (q := q) (by rw [hf]; rfl) (by rw [St.coBusy, hr])).elim
    tids_distinct := nofun
    thr_distinct := nofun }

theorem InvC.step {s s' : St} {e : Ev} (h : InvC s) (hs : Step s e s') : InvC s' := by
  cases hs
  -- `{ h' with }` restates `h'` for a state that differs in fields no clause of `InvC` mentions
  case acceptBegin r _ hp => exact { h.reset hp .launching with }
  case launch => exact { h with co_busy_up := fun _ _ _ => rfl }
  case adoptQueued p f ha _ => exact h.register ha _ rfl f
  case adoptUp p f ha _ => exact h.register ha _ rfl f
  case newUnit p f ha => exact h.register ha _ rfl f
  case flush hp hf =>
    refine { h.mapPay _ fun q => ?_ with }
    split
    · exact .inr ⟨by simp [*], by rw [‹s.pay q = _›]; rfl, nofun, nofun⟩
    · exact .inl rfl
  case sweep p _ hu _ _ => exact h.setPay .submitted hu nofun rfl nofun nofun
  case start p t hg ht =>
    refine (h.claim (s.fl p) t ht).run (hg.imp And.left And.left) (fun hco => ?_) (fun hf => if_pos hf) fun hf => if_pos hf
    rcases hg with ⟨_, hu | ⟨hf, _⟩⟩ | ⟨_, hf, _⟩
    · exact hu
    · rw [hf] at hco; cases hco
    · rw [hf] at hco; cases hco
  case bodyEnd p o hr =>
    exact h.setPay _ hr nofun (by split <;> rfl) (by split <;> nofun) fun _ _ => rfl
  case recordOnly p o he _ | recordKill p o he _ _ _ _ | recordFail p o he _ _ _ =>
    exact { h.setPay (.done o) he nofun rfl nofun nofun with }
  case unwound p hr _ _ => exact h.setPay .unwound hr nofun rfl nofun nofun
  case discard p hp _ => exact h.setPay .discarded hp nofun rfl nofun nofun
  case dropUnit p hu _ => exact h.setPay .discarded hu nofun rfl nofun nofun
  case execBegin e f t hp he ht =>
    cases f
    · exact { h.claim .aio t (ht.resolve_left nofun) with }
    · exact { h.claim .trio t (ht.resolve_left nofun) with }
    · exact { h with }
  case endRun r hp hg hr hl hq hres =>
    refine { h with co_busy_up := fun q (hco : (s.fl q).isCo = true) (hb : s.coBusy q = true) => ?_ }
    have hmem : q ∈ s.pids := h.pids_mem q fun ha => by simp [St.coBusy, ha] at hb
    have := List.all_eq_true.1 hq q hmem
    simp [hco, hb] at this
  all_goals exact { h with }

theorem inv_step (s s' : St) (e : Ev) (h : Inv s) (hs : step s e = some s') : Inv s' :=
  have hs := Step.of_step hs
  ⟨h.a.step hs, h.b.step hs, h.c.step hs, h.d.step hs⟩

theorem inv_run (es : List Ev) : ∀ s s', Inv s → run s es = some s' → Inv s' := by
  induction es with
  | nil => intro s s' h hr; cases hr; exact h
  | cons e es ih =>
    intro s s' h hr
    obtain ⟨s1, hs, hr⟩ := run_cons.1 hr
    exact ih s1 s' (inv_step s s1 e h hs) hr

/-- the invariant holds in every state reachable by any sequence of events -/
theorem inv_reach (s : St) (h : Reach s) : Inv s := by
  obtain ⟨es, hr⟩ := h
  exact inv_run es St.init s inv_init hr

end Cobald.Runtime
