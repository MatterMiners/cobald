/-
What the definitions of the runtime LTS do, stated once: thread routing, the result of a run, and
the transitions of `step` as a relation - `Step`, one constructor per branch, so that a proof about
an event gets its guards and its new state by `cases`, and shows that an event is enabled by
naming the constructor. Then runs and reachability.
-/
import CobaldVerif.Model.Runtime.LTS

namespace Cobald.Runtime

@[simp] theorem upd'_apply {α} (f : Flav → α) (k : Flav) (v : α) (q : Flav) :
    step.upd' f k v q = if q = k then v else f q := rfl
@[simp] theorem upd_apply {α} (f : Nat → α) (k : Nat) (v : α) (q : Nat) :
    upd f k v q = if q = k then v else f q := rfl

theorem tab_eq {α} (n : Nat) (f : Nat → α) : tabFn ((Array.range n).map f) f = f := by
  funext q
  unfold tabFn
  split
  · simp
  · rfl

/-- re-tabulating a state does not change it (the acceptor may do it freely) -/
theorem compact_eq (ids : List Nat) (s : St) : s.compact ids = s := by
  unfold St.compact
  cases s
  simp only [tab_eq]
  congr 1 <;> (funext f; cases f <;> rfl)

theorem flav_forall {P : Flav → Prop} : (∀ f, P f) ↔ P .aio ∧ P .trio ∧ P .thr :=
  ⟨fun h => ⟨h _, h _, h _⟩, fun ⟨a, b, c⟩ f => by cases f <;> assumption⟩

theorem flav_exists {P : Flav → Prop} (f : Flav) (h : P f) : P .aio ∨ P .trio ∨ P .thr := by
  cases f <;> simp [h]

theorem Out.loopKiller_cases {o : Out} (h : o.loopKiller = true) : o = .kbd ∨ o = .sysExit := by
  cases o <;> simp_all [Out.loopKiller]

theorem setFlavTid_eq (s : St) (f : Flav) (t : Nat) :
    s.setFlavTid f t = { s with loopTid := if f = .aio then some t else s.loopTid,
                                trioTid := if f = .trio then some t else s.trioTid,
                                thrTids := if f = .thr then t :: s.thrTids else s.thrTids } := by
  cases f <;> rfl

theorem tidOK_aio {s : St} {t : Nat} :
    s.tidOK .aio t = true ↔ (s.loopTid = none ∨ s.loopTid = some t) ∧ s.trioTid ≠ some t ∧ t ∉ s.thrTids := by
  simp [St.tidOK, and_assoc]

theorem tidOK_trio {s : St} {t : Nat} :
    s.tidOK .trio t = true ↔ (s.trioTid = none ∨ s.trioTid = some t) ∧ s.loopTid ≠ some t ∧ t ∉ s.thrTids := by
  simp [St.tidOK, and_assoc]

theorem tidOK_thr {s : St} {t : Nat} : s.tidOK .thr t = true ↔ s.loopTid ≠ some t ∧ s.trioTid ≠ some t := by
  simp [St.tidOK]

theorem tidOK_co {s : St} {f : Flav} {t : Nat} (hco : f.isCo = true) (h : s.tidOK f t = true) :
    s.flavTid f = none ∨ s.flavTid f = some t := by
  cases f with
  | aio => exact (tidOK_aio.1 h).1
  | trio => exact (tidOK_trio.1 h).1
  | thr => cases hco

theorem resultOK_not_raised {s : St} {r : Res} (h : s.resultOK r = true) (hg : ∀ p, s.gather ≠ .raised p) :
    r = .returned := by
  unfold St.resultOK at h
  split at h
  · exact absurd ‹_› (hg _)
  · simpa using h

theorem resultOK_returned {s : St} (h : s.resultOK .returned = true) (p : Nat) (hg : s.gather = .raised p) :
    s.pay p = .done .kbd := by
  simp only [St.resultOK, hg] at h
  split at h <;> first | assumption | simp at h

theorem resultOK_raisedRT {s : St} {p : Nat} (h : s.resultOK (.raisedRT p) = true) :
    s.gather = .raised p ∧ s.pay p ≠ .done .baseExc ∧ s.pay p ≠ .done .sysExit ∧ s.pay p ≠ .done .kbd := by
  unfold St.resultOK at h
  split at h
  · split at h <;> simp_all
  · simp at h

theorem resultOK_raisedBase {s : St} {p : Nat} (h : s.resultOK (.raisedBase p) = true) :
    s.gather = .raised p ∧ (s.pay p = .done .baseExc ∨ s.pay p = .done .sysExit ∨ s.pay p = .done .kbd) := by
  unfold St.resultOK at h
  split at h
  · split at h <;> simp_all
  · simp at h

/-- what `sigint` and a loop-killing `record` do to the runner tasks: those still running are cancelled -/
abbrev cancelRunning (rt : Flav → RTask) : Flav → RTask := fun f => if rt f = .running then .cancelled else rt f

/-- what `record` and `close` do to a latch: if it is still open it takes the value `l` (first failure
wins; a closed latch drops a later failure) -/
abbrev setOpen (la : Flav → Latch) (f : Flav) (l : Latch) : Flav → Latch :=
  if la f = .opened then step.upd' la f l else la

theorem setOpen_apply (la : Flav → Latch) (f : Flav) (l : Latch) (g : Flav) :
    setOpen la f l g = if g = f ∧ la f = .opened then l else la g := by
  unfold setOpen; split <;> simp_all [step.upd']

theorem setOpen_of_ne {la : Flav → Latch} {g : Flav} (h : la g ≠ .opened) (f : Flav) (l : Latch) :
    setOpen la f l g = la g := by
  rw [setOpen_apply, if_neg]; rintro ⟨rfl, hf⟩; exact h hf

theorem setOpen_self_ne {la : Flav → Latch} {f : Flav} {l : Latch} (hl : l ≠ .opened) : setOpen la f l f ≠ .opened := by
  rw [setOpen_apply]
  split
  · exact hl
  · exact fun h => ‹¬(_ ∧ _)› ⟨rfl, h⟩

theorem cancelRunning_err {rt : Flav → RTask} {f : Flav} {p : Nat} : cancelRunning rt f = .err p ↔ rt f = .err p := by
  unfold cancelRunning; split <;> simp_all

theorem cancelRunning_ok {rt : Flav → RTask} {f : Flav} : cancelRunning rt f = .ok ↔ rt f = .ok := by
  unfold cancelRunning; split <;> simp_all

/-- The transitions of `step` as a relation, one constructor per branch: guards as hypotheses,
the new state written out. -/
inductive Step (s : St) : Ev → St → Prop
  | acceptBegin (r) (hg : s.guard = none) (hp : s.phase.restartable = true) :
      Step s (.acceptBegin r)
        { s with phase := .launching, guard := some r, latch := fun _ => .opened, rtask := fun _ => .running,
                 gather := .pending, stopReq := false, flushed := false, loopTid := none, trioTid := none,
                 thrTids := [], failedQuiet := [] }
  | acceptReject (r) (hg : s.guard ≠ none) : Step s (.acceptReject r) s
  | launch (hp : s.phase = .launching) : Step s .launch { s with phase := .up }
  | adoptQueued (p f) (ha : s.pay p = .absent) (hp : s.phase ≠ .up) :
      Step s (.adopt p f) { s with pay := upd s.pay p .queued, fl := upd s.fl p f, pids := p :: s.pids }
  | adoptUp (p f) (ha : s.pay p = .absent) (hp : s.phase = .up) :
      Step s (.adopt p f) { s with pay := upd s.pay p .submitted, fl := upd s.fl p f, pids := p :: s.pids }
  | newUnit (p f) (ha : s.pay p = .absent) :
      Step s (.newUnit p f) { s with pay := upd s.pay p .unit, fl := upd s.fl p f, pids := p :: s.pids }
  | flush (hp : s.phase = .up) (hf : s.flushed = false) :
      Step s .flush { s with flushed := true, pay := fun q => if s.pay q = .queued then .submitted else s.pay q }
  | sweep (p) (hp : s.phase = .up) (hu : s.pay p = .unit) (hs : s.stopReq = false) (hl : s.latch .trio = .opened) :
      Step s (.sweep p) { s with pay := upd s.pay p .submitted }
  | start (p t)
      (hg : s.pay p = .submitted ∧ (s.phase = .up ∨ (s.fl p = .thr ∧ s.phase.isEnded = true))
            ∨ (s.pay p = .queued ∧ s.fl p = .thr ∧ s.phase.isEnded = true))
      (ht : s.tidOK (s.fl p) t = true) :
      Step s (.start p t)
        { s with pay := upd s.pay p .running, starts := upd s.starts p (s.starts p + 1), tid := upd s.tid p (some t),
                 loopTid := if s.fl p = .aio then some t else s.loopTid,
                 trioTid := if s.fl p = .trio then some t else s.trioTid,
                 thrTids := if s.fl p = .thr then t :: s.thrTids else s.thrTids }
  | bodyEnd (p o) (hr : s.pay p = .running) :
      Step s (.bodyEnd p o) { s with pay := upd s.pay p (if o.failing then .ended o else .done o) }
  /-- the outcome is only noted: the run is over, a loop killer meets a latch that is not open
  (and is no KeyboardInterrupt in asyncio), or the outcome does not fail -/
  | recordOnly (p o) (he : s.pay p = .ended o)
      (hg : s.phase ≠ .up ∨
            ((o.loopKiller = true ∧ s.fl p ≠ .trio) ∧ ¬(s.latch (s.fl p) = .opened ∨ (o = .kbd ∧ s.fl p = .aio))) ∨
            (¬(o.loopKiller = true ∧ s.fl p ≠ .trio) ∧ o.failing = false)) :
      Step s (.record p) { s with pay := upd s.pay p (.done o) }
  | recordKill (p o) (he : s.pay p = .ended o) (hp : s.phase = .up) (hk : o.loopKiller = true) (hf : s.fl p ≠ .trio)
      (hl : s.latch (s.fl p) = .opened ∨ (o = .kbd ∧ s.fl p = .aio)) :
      Step s (.record p)
        { s with pay := upd s.pay p (.done o), latch := setOpen s.latch (s.fl p) (.failed p),
                 gather := if o = .kbd then .interrupted else .raised p, rtask := cancelRunning s.rtask }
  | recordFail (p o) (he : s.pay p = .ended o) (hp : s.phase = .up) (hk : ¬(o.loopKiller = true ∧ s.fl p ≠ .trio))
      (hf : o.failing = true) :
      Step s (.record p)
        { s with pay := upd s.pay p (.done o), latch := setOpen s.latch (s.fl p) (.failed p),
                 failedQuiet := if s.quiet ∧ s.latch (s.fl p) = .opened ∧ o ≠ .kbd then p :: s.failedQuiet else s.failedQuiet }
  | unwound (p) (hr : s.pay p = .running) (hc : (s.fl p).isCo = true) (hl : s.latch (s.fl p) ≠ .opened) :
      Step s (.unwound p) { s with pay := upd s.pay p .unwound }
  | discard (p) (hs : s.pay p = .submitted) (hc : s.closing) : Step s (.discard p) { s with pay := upd s.pay p .discarded }
  | hold (p h) (hr : s.pay h = .running) : Step s (.hold p h) { s with holder := upd s.holder p (some h) }
  | dropUnit (p) (hu : s.pay p = .unit) (hh : s.held p = false) : Step s (.dropUnit p) { s with pay := upd s.pay p .discarded }
  | sigint (hp : s.phase = .up) (hg : s.gather = .pending) :
      Step s .sigint { s with gather := .interrupted, rtask := cancelRunning s.rtask }
  | shutdownUp (hp : s.phase = .up) : Step s .shutdownCall { s with stopReq := true }
  | shutdownIdle (hp : s.phase.restartable = true) : Step s .shutdownCall s
  | close (f) (hp : s.phase = .up) (hc : s.closing) : Step s (.close f) { s with latch := setOpen s.latch f .closed }
  | rtaskErr (f p) (hp : s.phase = .up) (hr : s.rtask f = .running) (hl : s.latch f = .failed p) :
      Step s (.rtaskEnd f) { s with rtask := step.upd' s.rtask f (.err p) }
  | rtaskOk (f) (hp : s.phase = .up) (hr : s.rtask f = .running) (hl : s.latch f = .closed) :
      Step s (.rtaskEnd f) { s with rtask := step.upd' s.rtask f .ok }
  | gatherRaise (f p) (hr : s.rtask f = .err p) (hg : s.gather = .pending) (hp : s.phase = .up) :
      Step s (.gatherRaise f) { s with gather := .raised p }
  | gatherDone (hp : s.phase = .up) (hg : s.gather = .pending) (hr : ∀ f, s.rtask f = .ok) :
      Step s .gatherDone { s with gather := .completed }
  | execBegin (e f t) (hp : s.phase = .up) (he : s.execs e = none) (ht : f = .thr ∨ s.tidOK f t = true) :
      Step s (.execBegin e f t)
        { s with execs := upd s.execs e (some (f, t)),
                 loopTid := if f = .aio then some t else s.loopTid,
                 trioTid := if f = .trio then some t else s.trioTid }
  | execEnd (e o x) (he : s.execs e = some x) : Step s (.execEnd e o) { s with execs := upd s.execs e none }
  | endRun (r) (hp : s.phase = .up) (hg : s.gather ≠ .pending) (hr : ∀ f, s.rtask f ≠ .running)
      (hl : ∀ f, s.latch f ≠ .opened) (hq : s.pids.all (fun p => !((s.fl p).isCo && s.coBusy p)) = true)
      (hres : s.resultOK r = true) :
      Step s (.endRun r) { s with phase := .ended r, guard := none }

theorem ite_eq_some_iff {α} {c : Prop} [Decidable c] {a b : Option α} {x : α} :
    (if c then a else b) = some x ↔ c ∧ a = some x ∨ ¬c ∧ b = some x := by
  by_cases hc : c <;> simp [hc]

/- From `step`: the branches are split off, stopping (`cases h`) as soon as one is reached so that the
conditionals inside the new state stay whole; the constructor is found by unifying the new state, and
`simp_all` rearranges the guards. A conditional is opened by `ite_eq_some_iff` (`split` does it too,
but is slow where the branches are large, as in `record`); `split` is left with the matches. The state
of `execBegin` takes the constructor's form only for a given flavour. -/
theorem Step.of_step {s s' : St} {e : Ev} (h : step s e = some s') : Step s e s' := by
  cases e with
  | execBegin e f t =>
    cases f <;> simp only [step] at h <;>
      (repeat' first | cases h | (rw [ite_eq_some_iff] at h; rcases h with ⟨_, h⟩ | ⟨_, h⟩) | split at h) <;>
      constructor <;> first | assumption | simp_all
  | _ =>
    simp only [step, setFlavTid_eq] at h <;>
      (repeat' first | cases h | (rw [ite_eq_some_iff] at h; rcases h with ⟨_, h⟩ | ⟨_, h⟩) | split at h) <;>
      constructor <;> first | assumption | simp_all [flav_forall]

/- To `step`: the guards of a constructor select the branch. Where the constructor's guard is not
literally the branch condition (a phase other than `up`, the three-way guard of `recordOnly`) the
conditionals are rewritten one by one. -/
theorem Step.to_step {s s' : St} {e : Ev} (h : Step s e s') : step s e = some s' := by
  cases h
  case adoptQueued p f ha hp =>
    rw [step, if_pos ha]
    split <;> first | rfl | contradiction
  case recordOnly p o he hg =>
    simp only [step, he]
    by_cases hup : s.phase ≠ .up
    · rw [if_pos hup]
    · rw [if_neg hup]
      rcases hg.resolve_left hup with ⟨hk, hl⟩ | ⟨hk, hf⟩
      · rw [if_pos hk, if_neg hl]
      · rw [if_neg hk, hf]; rfl
  case shutdownIdle hp =>
    have : s.phase ≠ .up := fun h => by rw [h] at hp; cases hp
    rw [step, if_neg this, if_pos hp]
  case execBegin e f t hp he ht => rw [step, if_pos ⟨hp, he, ht⟩]; cases f <;> rfl
  case endRun r hp hg hr hl hq hres => rw [step, if_pos ⟨hp, hg, hr _, hr _, hr _, hl _, hl _, hl _, hq⟩, if_pos hres]
  all_goals simp [step, setFlavTid_eq, *]

theorem step_iff {s s' : St} {e : Ev} : step s e = some s' ↔ Step s e s' := ⟨Step.of_step, Step.to_step⟩

theorem isSome_step {s : St} {e : Ev} : (step s e).isSome = true ↔ ∃ s', Step s e s' := by
  simp only [Option.isSome_iff_exists, step_iff]

theorem endRun_enabled {s : St} {r : Res} :
    (step s (.endRun r)).isSome = true ↔
      s.phase = .up ∧ s.gather ≠ .pending ∧ (∀ f, s.rtask f ≠ .running) ∧ (∀ f, s.latch f ≠ .opened) ∧
      s.pids.all (fun p => !((s.fl p).isCo && s.coBusy p)) = true ∧ s.resultOK r = true := by
  rw [isSome_step]
  constructor
  · rintro ⟨_, h⟩
    cases h with
    | endRun _ hp hg hr hl hq hres => exact ⟨hp, hg, hr, hl, hq, hres⟩
  · exact fun ⟨hp, hg, hr, hl, hq, hres⟩ => ⟨_, .endRun r hp hg hr hl hq hres⟩

/-- every state reachable by some event sequence from the initial state -/
def Reach (s : St) : Prop := ∃ es, run St.init es = some s

theorem run_cons {s s' : St} {e : Ev} {es : List Ev} :
    run s (e :: es) = some s' ↔ ∃ s1, step s e = some s1 ∧ run s1 es = some s' := by
  rw [run]
  split <;> simp [*]

theorem run_append {s s1 : St} {es : List Ev} (h : run s es = some s1) (es' : List Ev) :
    run s (es ++ es') = run s1 es' := by
  induction es generalizing s with
  | nil => cases h; rfl
  | cons e es ih =>
    obtain ⟨s2, hs, h⟩ := run_cons.1 h
    simp only [List.cons_append, run, hs]
    exact ih h

theorem Reach.run {s s' : St} {es : List Ev} (hr : Reach s) (h : run s es = some s') : Reach s' :=
  let ⟨es0, h0⟩ := hr
  ⟨es0 ++ es, (run_append h0 es).trans h⟩

end Cobald.Runtime
