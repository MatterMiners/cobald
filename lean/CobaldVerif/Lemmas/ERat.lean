/-
Order structure of the extended rationals used by the models: `ERat` is a linear order
(the model's own `≤`/`<`), so that Mathlib's lemmas on `max`, `min` and monotone maps apply to
model definitions.
-/
import CobaldVerif.Model.Num
import Mathlib.Order.Defs.LinearOrder
import Mathlib.Algebra.Order.Ring.Rat

namespace Cobald.ERat

theorem le_def (a b : ERat) : (a ≤ b) = ERat.le a b := rfl
theorem lt_def (a b : ERat) : (a < b) = ERat.lt a b := rfl

@[simp] theorem fin_le_fin {a b : Rat} : (fin a ≤ fin b) ↔ a ≤ b := Iff.rfl
@[simp] theorem fin_lt_fin {a b : Rat} : (fin a < fin b) ↔ a < b := Iff.rfl
@[simp] theorem ninf_le (a : ERat) : ninf ≤ a := by cases a <;> trivial
@[simp] theorem le_pinf (a : ERat) : a ≤ pinf := by cases a <;> trivial
@[simp] theorem fin_lt_pinf (a : Rat) : fin a < pinf := trivial
@[simp] theorem ninf_lt_fin (a : Rat) : ninf < fin a := trivial
@[simp] theorem ninf_lt_pinf : ninf < pinf := trivial
@[simp] theorem not_pinf_lt (a : ERat) : ¬ pinf < a := by cases a <;> exact id
@[simp] theorem not_lt_ninf (a : ERat) : ¬ a < ninf := by cases a <;> exact id
@[simp] theorem not_fin_le_ninf (a : Rat) : ¬ fin a ≤ ninf := id
@[simp] theorem not_pinf_le_fin (a : Rat) : ¬ pinf ≤ fin a := id
@[simp] theorem not_pinf_le_ninf : ¬ pinf ≤ ninf := id

instance : LinearOrder ERat where
  le := ERat.le
  lt := ERat.lt
  le_refl a := by cases a <;> simp [ERat.le]
  le_trans a b c := by
    cases a <;> cases b <;> cases c <;> simp [ERat.le]
    exact Rat.le_trans
  le_antisymm a b := by
    cases a <;> cases b <;> simp [ERat.le]
    exact Rat.le_antisymm
  le_total a b := by
    cases a <;> cases b <;> simp [ERat.le]
    exact Rat.le_total
  lt_iff_le_not_ge a b := by
    cases a <;> cases b <;> simp [ERat.le, ERat.lt]
    exact le_of_lt
  toDecidableLE := ERat.decLe
  toDecidableLT := ERat.decLt
  toDecidableEq := inferInstance

theorem isFin_iff {u : ERat} : u.isFin = true ↔ ∃ q, u = fin q := by cases u <;> simp [isFin]

theorem exists_fin_of_mem {u : ERat} {a b : Rat} (h1 : fin a ≤ u) (h2 : u ≤ fin b) : ∃ q, u = fin q := by
  cases u <;> simp_all

theorem subFrom_le {b : ERat} (hb : fin 0 < b) (s : Rat) : subFrom s b ≤ fin s := by
  cases b <;> simp_all [subFrom, le_of_lt]

theorem le_addFin {q : ERat} (hq : fin 0 < q) (s : Rat) : fin s ≤ addFin s q := by
  cases q <;> simp_all [addFin, le_of_lt]

end Cobald.ERat
