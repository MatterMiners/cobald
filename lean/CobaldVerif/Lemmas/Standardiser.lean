/-
Facts about the Standardiser model (C06, C16).

Between ordered bounds `_clamp` is `max lo (min x hi)` in the linear order `ERat` (`clamp_eq`), and nothing
below splits on the constructors of `ERat` to reason about it. Two consequences carry C06: nested clamps are
one clamp (`clamp_clamp`), so `_clamp_demand` at a given supply is a single clamp (`cd_clamp`); and
`clamp_interval`, from which come both the window clause and the fact that a clamp moves no two values apart.
The setter's `if self.granularity != 1` is looked at once, in `fwd_eq_cd`; what it forwards is `_clamp_demand`
of some value, and the facts about `cd` apply.
-/
import CobaldVerif.Model.Standardiser
import CobaldVerif.Lemmas.ERat
import Mathlib.Data.Rat.Floor

namespace Cobald.Standardiser
open Cobald ERat

/-- between ordered bounds `_clamp` is `max lo (min x hi)`; the order facts below all come from this -/
theorem clamp_eq {lo hi : ERat} (h : lo ≤ hi) (x : ERat) : clamp lo x hi = max lo (min x hi) := by
  unfold clamp; split_ifs with c1 c2
  · exact (max_eq_left ((min_le_left _ _).trans c1.le)).symm
  · rw [min_eq_right c2.le, max_eq_right h]
  · rw [min_eq_left (not_lt.1 c2), max_eq_right (not_lt.1 c1)]

theorem clamp_ge {lo hi : ERat} (x : ERat) (h : lo ≤ hi) : lo ≤ clamp lo x hi :=
  clamp_eq h x ▸ le_max_left _ _

theorem clamp_le {lo hi : ERat} (x : ERat) (h : lo ≤ hi) : clamp lo x hi ≤ hi :=
  clamp_eq h x ▸ max_le h (min_le_right _ _)

theorem clamp_cases (lo x hi : ERat) : clamp lo x hi = x ∨ clamp lo x hi = lo ∨ clamp lo x hi = hi := by
  unfold clamp; split_ifs <;> simp

theorem clamp_of_le {lo x hi : ERat} (h : lo ≤ hi) (hx : x ≤ lo) : clamp lo x hi = lo := by
  rw [clamp_eq h, max_eq_left ((min_le_left _ _).trans hx)]

theorem clamp_of_ge {lo x hi : ERat} (h : lo ≤ hi) (hx : hi ≤ x) : clamp lo x hi = hi := by
  rw [clamp_eq h, min_eq_right hx, max_eq_right h]

theorem clamp_id {lo x hi : ERat} (h1 : lo ≤ x) (h2 : x ≤ hi) : clamp lo x hi = x := by
  rw [clamp_eq (h1.trans h2), min_eq_left h2, max_eq_right h1]

theorem clamp_mono {lo hi x y : ERat} (h : lo ≤ hi) (hxy : x ≤ y) : clamp lo x hi ≤ clamp lo y hi := by
  rw [clamp_eq h, clamp_eq h]
  exact max_le_max_left lo (min_le_min_right hi hxy)

/-- a clamp to `[a, b]` changes nothing in front of a clamp to a part of `[a, b]` -/
theorem clamp_absorb {a b lo hi : ERat} (x : ERat) (h1 : a ≤ lo) (h : lo ≤ hi) (h2 : hi ≤ b) :
    clamp lo (clamp a x b) hi = clamp lo x hi := by
  rw [clamp_eq h, clamp_eq h, clamp_eq (h1.trans (h.trans h2)), min_max_distrib_right, min_assoc,
    min_eq_right h2, ← max_assoc, max_eq_left (min_le_of_left_le h1)]

/-- two nested clamps are one clamp to the clamped bounds: a monotone map commutes with `max` and `min` -/
theorem clamp_clamp {a b lo hi : ERat} (x : ERat) (hab : a ≤ b) (hlh : lo ≤ hi) :
    clamp a (clamp lo x hi) b = clamp (clamp a lo b) x (clamp a hi b) := by
  have hc : Monotone (clamp a · b) := fun _ _ => clamp_mono hab
  rw [clamp_eq hlh, hc.map_max, hc.map_min, ← clamp_eq (hc hlh),
    clamp_absorb x (clamp_ge lo hab) (hc hlh) (clamp_le hi hab)]

/-- what clamping to `[lo, hi]` does to an interval `[a, b]`: it maps it into itself, unless it lies wholly
below `lo` or wholly above `hi`, and then it is collapsed to that bound. Read for one point this is the
window clause of C06, for two points it says that a clamp does not move them apart. -/
theorem clamp_interval {lo hi : ERat} (h : lo ≤ hi) (a b : ERat) :
    (∀ w, a ≤ w → w ≤ b → a ≤ clamp lo w hi ∧ clamp lo w hi ≤ b) ∨
    (b < lo ∧ ∀ w, w ≤ b → clamp lo w hi = lo) ∨ (hi < a ∧ ∀ w, a ≤ w → clamp lo w hi = hi) := by
  rcases lt_or_ge b lo with c1 | c1
  · exact .inr (.inl ⟨c1, fun w hw => clamp_of_le h (hw.trans c1.le)⟩)
  rcases lt_or_ge hi a with c2 | c2
  · exact .inr (.inr ⟨c2, fun w hw => clamp_of_ge h (c2.le.trans hw)⟩)
  · refine .inl fun w h1 h2 => ?_
    rw [clamp_eq h]
    exact ⟨le_max_of_le_right (le_min h1 c2), max_le c1 ((min_le_left _ _).trans h2)⟩

/-- a NaN bound never applies, and neither does an infinite one: `clampO` is `clamp` -/
theorem clampO_eq (lo : Option ERat) (v : ERat) (hi : Option ERat) :
    clampO lo v hi = clamp (lo.getD ninf) v (hi.getD pinf) := by
  cases lo <;> cases hi <;> simp [clampO, clamp]

/-- from a value above the lower bound, a step `j ≥ 0` after the clamp ends where the same step before it does -/
theorem clamp_shift {lo hi : ERat} (h : lo ≤ hi) {x y j : Rat} (hx : lo ≤ fin x) (hj : 0 ≤ j)
    (hy : clamp lo (fin x) hi = fin y) : clamp lo (fin (y + j)) hi = clamp lo (fin (x + j)) hi := by
  rcases le_total (fin x) hi with c | c
  · rw [clamp_id hx c] at hy
    cases hy; rfl
  · rw [clamp_of_ge h c] at hy; subst hy
    rw [clamp_of_ge h (fin_le_fin.2 (le_add_of_nonneg_right hj)),
      clamp_of_ge h (c.trans (fin_le_fin.2 (le_add_of_nonneg_right hj)))]

/-- an interval with a finite point in it clamps finite values to finite values -/
theorem clamp_fin_all {lo hi : ERat} {w : Rat} (h1 : lo ≤ fin w) (h2 : fin w ≤ hi) (v : Rat) :
    ∃ x, clamp lo (fin v) hi = fin x := by
  unfold clamp; split_ifs with c1 c2
  · exact exists_fin_of_mem c1.le h1
  · exact exists_fin_of_mem h2 c2.le
  · exact ⟨v, rfl⟩

theorem absQ_eq (q : Rat) : absQ q = |q| := by
  unfold absQ; split_ifs with h
  · rw [abs_of_neg h]
  · rw [abs_of_nonneg (not_lt.mp h)]

theorem farApart_self (a : ERat) (g : Rat) (hg : 0 < g) : farApart a a g = false := by
  cases a <;> simp [farApart, absQ_eq, hg]

theorem farApart_fin (x y g : Rat) : farApart (fin x) (fin y) g = false ↔ |x - y| < g := by
  simp [farApart, absQ_eq]

theorem near_of_mem {u v : ERat} {a b g : Rat} (hu : fin a ≤ u ∧ u ≤ fin b) (hv : fin a ≤ v ∧ v ≤ fin b)
    (h : b - a < g) : farApart u v g = false := by
  obtain ⟨x, rfl⟩ := exists_fin_of_mem hu.1 hu.2
  obtain ⟨y, rfl⟩ := exists_fin_of_mem hv.1 hv.2
  exact (farApart_fin x y g).2 ((abs_sub_le_of_le_of_le (fin_le_fin.1 hu.1) (fin_le_fin.1 hu.2)
    (fin_le_fin.1 hv.1) (fin_le_fin.1 hv.2)).trans_lt h)

/-- clamping to one interval never moves two values further apart -/
theorem clamp_near {lo hi u v : ERat} {a b g : Rat} (h : lo ≤ hi) (hu : fin a ≤ u ∧ u ≤ fin b)
    (hv : fin a ≤ v ∧ v ≤ fin b) (hg : 0 < g) (hab : b - a < g) :
    farApart (clamp lo u hi) (clamp lo v hi) g = false := by
  rcases clamp_interval h (fin a) (fin b) with hI | ⟨_, hI⟩ | ⟨_, hI⟩
  · exact near_of_mem (hI u hu.1 hu.2) (hI v hv.1 hv.2) hab
  · rw [hI u hu.2, hI v hv.2]; exact farApart_self _ _ hg
  · rw [hI u hu.1, hI v hv.1]; exact farApart_self _ _ hg

theorem floorTo_le (v g : Rat) (hg : 0 < g) : floorTo v g ≤ v :=
  (le_div_iff₀ hg).1 (Int.floor_le (v / g))

theorem lt_floorTo_add (v g : Rat) (hg : 0 < g) : v < floorTo v g + g := by
  have h := (div_lt_iff₀ hg).1 (Int.lt_floor_add_one (v / g))
  rwa [add_mul, one_mul] at h

theorem floorTo_multiple (v g : Rat) : ∃ k : Int, floorTo v g = k * g := ⟨_, rfl⟩

theorem win_le (p : Params) (hp : p.ok) (s : Rat) : winLo p s ≤ winHi p s :=
  (subFrom_le hp.2.2.1 s).trans (le_addFin hp.2.1 s)

/-- at one supply `_clamp_demand` is a single clamp, to the window ends clamped to `[minimum, maximum]` -/
theorem cd_clamp (p : Params) (hp : p.ok) (s : Rat) :
    ∃ lo hi, lo ≤ hi ∧ ∀ v, cd p s v = clamp lo (fin v) hi :=
  ⟨_, _, clamp_mono hp.1 (win_le p hp s), fun _ => clamp_clamp _ hp.1 (win_le p hp s)⟩

theorem cd_free {p : Params} {s x : Rat} (h1 : p.min ≤ fin x) (h2 : fin x ≤ p.max)
    (h3 : winLo p s ≤ fin x) (h4 : fin x ≤ winHi p s) : cd p s x = fin x := by
  rw [cd, clamp_id h3 h4, clamp_id h1 h2]

/-- the setter forwards `_clamp_demand` of a value less than one granule below the written one -/
theorem fwd_eq_cd (p : Params) (hg : 0 < p.g) (s v : Rat) :
    ∃ w, fwd p s v = cd p s w ∧ w ≤ v ∧ v < w + p.g := by
  unfold fwd; split_ifs
  · exact ⟨_, rfl, floorTo_le v p.g hg, lt_floorTo_add v p.g hg⟩
  · exact ⟨v, rfl, le_rfl, lt_add_of_pos_right v hg⟩

theorem fwd_mem {p : Params} (hp : p.ok) (s v : Rat) : p.min ≤ fwd p s v ∧ fwd p s v ≤ p.max := by
  obtain ⟨w, hw, -⟩ := fwd_eq_cd p hp.2.2.2 s v
  exact hw ▸ ⟨clamp_ge _ hp.1, clamp_le _ hp.1⟩

end Cobald.Standardiser
