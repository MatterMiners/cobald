/-
What the operations of the FactoryPool model (`Model/Factory.lean`) do to the population of
children: `release` and `reap` only retire active children (`Retired`), the spawn loop only hatches
freshly numbered ones (`St.hatch`, `growLoop_spec`); an adjustment hatches, then retires
(`adjust_population`).
-/
import CobaldVerif.Model.Factory
import Mathlib.Tactic.Linarith
import Mathlib.Algebra.Order.Field.Rat

namespace Cobald.Factory

@[simp] theorem sumD_nil : sumD [] = 0 := rfl

@[simp] theorem sumD_cons (c : Child) (l : List Child) : sumD (c :: l) = c.demand + sumD l := by
  simp [sumD]

@[simp] theorem sumD_append (a b : List Child) : sumD (a ++ b) = sumD a + sumD b := by
  simp [sumD]

/-- what `release` and `reap` both do: the active children that satisfy `p` go to the mortuary,
their demand set to 0 -/
def retire (p : Child → Bool) (st : St) : St :=
  { st with hatchery := st.hatchery.filter (fun c => !p c),
            mortuary := st.mortuary ++ (st.hatchery.filter p).map (fun c => { c with demand := 0 }) }

theorem release_eq_retire (st : St) (i : Nat) : release st i = retire (fun c => c.id = i) st := by
  simp only [release, retire, decide_not]

theorem reap_eq_retire (st : St) : reap st = retire (fun c => c.demand ≤ 0) st := by
  simp only [reap, retire, decide_not]

theorem mem_hatchery_retire {p : Child → Bool} {st : St} {c : Child} :
    c ∈ (retire p st).hatchery ↔ c ∈ st.hatchery ∧ p c = false := by
  simp only [retire, List.mem_filter, Bool.not_eq_true']

theorem mem_mortuary_retire {p : Child → Bool} {st : St} {c : Child} :
    c ∈ (retire p st).mortuary ↔
      c ∈ st.mortuary ∨ ∃ d ∈ st.hatchery, p d = true ∧ { d with demand := 0 } = c := by
  simp only [retire, List.mem_append, List.mem_map, List.mem_filter, and_assoc]

/-- `t` is `s` after some active children were retired: nobody became active, the children are
the same ones, the factory was not called -/
structure Retired (s t : St) : Prop where
  hatchery : t.hatchery ⊆ s.hatchery
  ids : (t.all.map (·.id)).Perm (s.all.map (·.id))
  spawned : t.spawned = s.spawned

theorem Retired.refl (s : St) : Retired s s := ⟨List.Subset.refl _, .refl _, rfl⟩

theorem Retired.trans {s t u : St} (h₁ : Retired s t) (h₂ : Retired t u) : Retired s u :=
  ⟨fun _ hc => h₁.hatchery (h₂.hatchery hc), h₂.ids.trans h₁.ids, h₂.spawned.trans h₁.spawned⟩

theorem Retired.length_all {s t : St} (h : Retired s t) : t.all.length = s.all.length := by
  simpa using h.ids.length_eq

theorem retired_retire (p : Child → Bool) (st : St) : Retired st (retire p st) := by
  refine ⟨List.filter_sublist.subset, ?_, rfl⟩
  simp only [St.all, retire, List.map_append, List.map_map, Function.comp_def]
  -- kept ++ (mortuary ++ retired) ~ mortuary ++ (kept ++ retired) ~ (kept ++ retired) ++ mortuary
  refine (List.perm_append_comm_assoc ..).trans (List.perm_append_comm.trans (.append_right _ ?_))
  rw [← List.map_append]
  exact (List.perm_append_comm.trans (List.filter_append_perm p st.hatchery)).map _

theorem retired_release (st : St) (i : Nat) : Retired st (release st i) :=
  release_eq_retire st i ▸ retired_retire _ st

theorem retired_reap (st : St) : Retired st (reap st) :=
  reap_eq_retire st ▸ retired_retire _ st

theorem retired_shrinkPass (st : St) (excess : Rat) (hit : List Child) :
    Retired st (shrinkPass st excess hit) := by
  fun_induction shrinkPass st excess hit with
  | case1 st | case2 st => exact .refl st
  | case3 st _ c _ _ _ ih => exact (retired_release st c.id).trans ih
  | case4 _ _ _ _ _ _ ih => exact ih

theorem retired_shrink (st : St) (target : Rat) (order : List Nat) :
    Retired st (shrink st target order) :=
  (retired_shrinkPass ..).trans (retired_reap _)

/-- zeroing children that have no demand never lowers the total demand -/
theorem sumD_le_retire {p : Child → Bool} (hp : ∀ c, p c = true → c.demand ≤ 0) (st : St) :
    sumD st.all ≤ sumD (retire p st).all := by
  have key : ∀ l : List Child, sumD l ≤ sumD (l.filter fun c => !p c) +
      sumD ((l.filter p).map fun c => { c with demand := 0 }) := by
    intro l
    induction l with
    | nil => simp
    | cons c l ih =>
      cases hc : p c <;> simp only [List.filter_cons, hc, Bool.not_true, Bool.not_false, if_true,
        Bool.false_eq_true, if_false, List.map_cons, sumD_cons]
      · linarith
      · linarith [hp c hc]
  simp only [St.all, retire, sumD_append]
  linarith [key st.hatchery]

theorem sumD_le_reap (st : St) : sumD st.all ≤ sumD (reap st).all :=
  reap_eq_retire st ▸ sumD_le_retire (fun _ h => of_decide_eq_true h) st

/-- `new` was spawned: one factory call each -/
def St.hatch (st : St) (new : List Child) : St :=
  { st with hatchery := st.hatchery ++ new, spawned := st.spawned + new.length }

@[simp] theorem St.hatch_nil (st : St) : st.hatch [] = st := by simp [St.hatch]

theorem St.hatch_hatch (st : St) (a b : List Child) : (st.hatch a).hatch b = st.hatch (a ++ b) := by
  simp [St.hatch, Nat.add_assoc]

theorem St.all_hatch_perm (st : St) (new : List Child) : (st.hatch new).all.Perm (st.all ++ new) := by
  simp only [St.all, St.hatch, List.append_assoc]
  exact List.perm_append_comm.append_left _

theorem St.sumD_all_hatch (st : St) (new : List Child) :
    sumD (st.hatch new).all = sumD st.all + sumD new := by
  simp only [St.all, St.hatch, sumD_append]
  exact add_right_comm _ _ _

/-- what the spawn loop does: it hatches children numbered on from `1000 + spawned`, each with
positive demand; without the child spawned last their demands do not cover what was missing, and
with it they do if the loop ended by itself (not by running out of fuel) -/
theorem growLoop_spec {factory : Nat → Child} {fuel : Nat} {st st' : St} {missing : Rat}
    (h : growLoop factory fuel st missing = some st') :
    ∃ new : List Child, st' = st.hatch new ∧
      new.map (·.id) = List.range' (1000 + st.spawned) new.length ∧ (∀ c ∈ new, 0 < c.demand) ∧
      (new ≠ [] → 0 < missing - sumD new.dropLast) ∧
      (new.length < fuel → missing - sumD new ≤ 0) := by
  fun_induction growLoop factory fuel st missing with
  | case1 st missing =>
    cases h
    exact ⟨[], (St.hatch_nil _).symm, rfl, List.forall_mem_nil _, (absurd rfl ·),
      (absurd · (Nat.not_lt_zero _))⟩
  | case2 fuel st missing hm =>
    cases h
    exact ⟨[], (St.hatch_nil _).symm, rfl, List.forall_mem_nil _, (absurd rfl ·),
      fun _ => (sub_zero missing).trans_le hm⟩
  | case3 => cases h
  | case4 fuel st missing hm c hd ih =>
    obtain ⟨new, rfl, hid, hpos, hmin, hcov⟩ := ih h
    -- the state the loop goes on with is `st.hatch [c]`, by unfolding
    refine ⟨c :: new, St.hatch_hatch st [c] new, ?_, List.forall_mem_cons.mpr ⟨not_le.mp hd, hpos⟩,
      fun _ => ?_, fun hlen => ?_⟩
    · simpa [List.range'_succ, Nat.add_assoc, c] using hid
    · by_cases hn : new = []
      · subst hn
        simpa using not_le.mp hm
      · rw [List.dropLast_cons_of_ne_nil hn, sumD_cons, ← sub_sub]
        exact hmin hn
    · rw [sumD_cons, ← sub_sub]
      exact hcov (Nat.lt_of_succ_lt_succ hlen)

theorem grow_spec {factory : Nat → Child} {fuel : Nat} {st st' : St} {target : Rat}
    (h : grow factory fuel st target = some st') :
    ∃ new : List Child, st' = reap (st.hatch new) ∧
      new.map (·.id) = List.range' (1000 + st.spawned) new.length ∧ (∀ c ∈ new, 0 < c.demand) ∧
      (new ≠ [] → sumD st.all + sumD new.dropLast < target) ∧
      (new.length < fuel → target ≤ sumD st.all + sumD new) := by
  obtain ⟨s1, hg, rfl⟩ := Option.map_eq_some_iff.mp h
  obtain ⟨new, rfl, hid, hpos, hmin, hcov⟩ := growLoop_spec hg
  rw [sub_sub] at hmin hcov
  exact ⟨new, rfl, hid, hpos, fun hn => sub_pos.mp (hmin hn), fun hl => sub_nonpos.mp (hcov hl)⟩

/-- what an adjustment does to the population: it hatches children numbered on from
`1000 + spawned`, then only retires -/
theorem adjust_population {factory : Nat → Child} {fuel : Nat} {st st' : St} {order : List Nat}
    (ha : adjust factory fuel st order = some st') :
    ∃ new : List Child, new.map (·.id) = List.range' (1000 + st.spawned) new.length ∧
      Retired (st.hatch new) st' := by
  unfold adjust at ha
  split at ha
  · cases ha
    exact ⟨[], rfl, by simpa using retired_shrink st st.demand order⟩
  · obtain ⟨new, rfl, hid, -⟩ := grow_spec ha
    exact ⟨new, hid, retired_reap _⟩

end Cobald.Factory
