/-
Lemmas for decorator stacks (C16): what a read and a write do at a `Standardiser` layer, with
the case distinctions of the model (resynchronised or not; finite or infinite demand) made once.
-/
import CobaldVerif.Model.Decorators

namespace Cobald.Decorators
open Cobald

/-- a read at a `Standardiser` layer: the value it reports is the value it then stores -/
theorem getDemand_std (p : Standardiser.Params) (st : ERat) (s : Stack) :
    getDemand (.std p st s) =
      let x := if Standardiser.farApart st (getDemand s).2 p.g then (getDemand s).2 else st
      (.std p x (getDemand s).1, x) := by
  simp only [getDemand]
  split <;> rfl

/-- a write stores some value and passes some value on; the records are those from below -/
theorem setDemand_std (p : Standardiser.Params) (st : ERat) (s : Stack) (v : ERat) :
    ∃ st' v', setDemand (.std p st s) v = (.std p st' (setDemand s v').1, (setDemand s v').2) := by
  cases v <;> exact ⟨_, _, rfl⟩

end Cobald.Decorators
