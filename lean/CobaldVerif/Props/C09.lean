/-
C09 — Periodic services act once per interval, for as long as they run.
The clock contract of trio (a sleep of d ends d later, the body takes no virtual time) is an
assumption of the model (Model/Periodic.lean); under it:
-/
import CobaldVerif.Lemmas.Periodic
import CobaldVerif.Generated.Src
import CobaldVerif.Props.C08
import Mathlib.Data.Rat.Floor

namespace Cobald.Props.C09
open Cobald Cobald.Controllers Cobald.Periodic

/-- one step immediately, then exactly one per interval (act-first loops); the first after one
interval for the sleep-first loop of FactoryPool -/
theorem wake_times (pre : Bool) (i : Rat) (k : Nat) :
    actTime false i 0 = 0 ∧ actTime true i 0 = i ∧ actTime pre i (k + 1) = actTime pre i k + i := by
  refine ⟨by simp [actTime], by simp [actTime], ?_⟩
  unfold actTime; push_cast; ring

/-- the loop has no exit: for every n there is an (n+1)-th action, later than the n-th -/
theorem runs_forever (pre : Bool) (i : Rat) (hi : 0 < i) (n : Nat) : actTime pre i n < actTime pre i (n + 1) := by
  rw [(wake_times pre i n).2.2]; linarith

/-- the number of actions up to time T: the k-th action (k = 0, 1, …) of an act-first loop has
happened by T iff k ≤ ⌊T / interval⌋, i.e. ⌊T/interval⌋ + 1 actions in [0, T] -/
theorem count_in_span (i T : Rat) (hi : 0 < i) (k : Nat) :
    actTime false i k ≤ T ↔ (k : Int) ≤ ⌊T / i⌋ := by
  simpa using actTime_le_iff false i T hi k

theorem count_in_span_pre (i T : Rat) (hi : 0 < i) (k : Nat) :
    actTime true i k ≤ T ↔ ((k : Int) + 1) ≤ ⌊T / i⌋ := by
  simpa using actTime_le_iff true i T hi k

/-- every entry of a LinearController trace differs from its predecessor by at most
rate × interval (environment actions never touch demand) -/
theorem linear_trace_bound (c : Linear) (i : Rat) (hc : c.ok) (hi : 0 ≤ i) :
    ∀ (es : List Ev) (p : Pool),
      List.IsChain (fun a b : Pool => |b.demand - a.demand| ≤ c.rate * i) (p :: runCtl (linearStep c i) p es) :=
  runCtl_chain _ _ fun p => C08.linear_bound c i p hc hi

/-- **drift**: if d k is the demand after the k-th step (d 0 after the immediate first one),
demand changes by at most rate × (span + interval) over any time span [t1, t2] — the demand at
time t being the one after the last step at or before t -/
theorem linear_drift (d : Nat → Rat) (rate i : Rat) (hr : 0 < rate) (hi : 0 < i)
    (hstep : ∀ k, |d (k + 1) - d k| ≤ rate * i) (t1 t2 : Rat) (h0 : 0 ≤ t1) (h12 : t1 ≤ t2) :
    |d ⌊t2 / i⌋.toNat - d ⌊t1 / i⌋.toNat| ≤ rate * ((t2 - t1) + i) := by
  refine (abs_sub_floor_le d (rate * i) i hi hstep t1 t2 h0 h12).trans_eq ?_
  rw [div_add_one hi.ne', mul_comm rate, ← mul_assoc, div_mul_cancel₀ _ hi.ne', mul_comm]

/-- at every window boundary the target's demand becomes the value most recently written -/
theorem buffer_flush (b : BufSt) : (bufStep b).target = b.stored ∧ (bufStep b).stored = b.stored := by
  unfold bufStep
  split_ifs with h
  · exact ⟨rfl, rfl⟩
  · exact ⟨(not_not.mp h).symm, rfl⟩

/-- between boundaries nothing is forwarded: a write only changes the stored value -/
theorem buffer_quiet (b : BufSt) (x : Rat) (es : List Ev) :
    (runBuf b (.write x :: es)).head? = some { b with stored := x } := by
  simp [runBuf]

/-- history form: after any timed history, the target's demand is the value the buffer held at
the last boundary (or the initial one if no boundary has passed) -/
theorem buffer_history : ∀ (es : List Ev) (b : BufSt),
    (runBuf b es).getLast? = none ∨
    ∃ s, (runBuf b es).getLast? = some s ∧
      ((∀ e ∈ es, e matches .step → False) → s.target = b.target) := by
  intro es b
  cases hl : (runBuf b es).getLast? with
  | none => exact .inl rfl
  | some s => exact .inr ⟨s, rfl, fun h => runBuf_target es h b s (List.mem_of_getLast? hl)⟩

/-! ### non-vacuity -/

example : actTime false (5/2) 4 = 10 ∧ actTime true (5/2) 4 = 25/2 := by decide +kernel
example : (runBuf ⟨3, 3⟩ [.write 7, .write 9, .step, .write 1]).map (·.target) = [3, 3, 9, 9] := by decide +kernel
example : (⟨1/2, 1/2, 3⟩ : Linear).ok := by decide +kernel

/-! ### the shape of the `run` loops as they stand in the source

`Generated/Src.lean` is re-emitted from the text of the six `run` methods on every run: each is one
endless loop with exactly one sleep of one period per iteration, placed last (act, then sleep) or
first (sleep, then act).  The theorems above are instantiated accordingly (`actTime pre …`), and the
driver of the correspondence reads `pre` from these constants. -/

/-- the controllers and the Buffer act first and then sleep; the FactoryPool sleeps first -/
theorem gen_loop_shapes :
    Gen.sleepsFirstLinear = false ∧ Gen.sleepsFirstRel = false ∧ Gen.sleepsFirstSwitch = false ∧
    Gen.sleepsFirstStepwise = false ∧ Gen.sleepsFirstBuffer = false ∧ Gen.sleepsFirstFactory = true := by
  decide

end Cobald.Props.C09
