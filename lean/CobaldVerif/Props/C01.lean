/-
C01 — Background failures always stop the daemon (fail-stop, never silent).
Theorems over every state reachable in the runtime LTS (any number of payloads, any
interleaving of the events its guards admit).  The semantics of asyncio / trio / threading is
in the guards of the LTS (assumed); the bookkeeping is what is proved.
-/
import CobaldVerif.Lemmas.RuntimeProgress
import CobaldVerif.Generated.Src

namespace Cobald.Props.C01
open Cobald Cobald.Runtime

/-- the payload monitors of the asyncio and thread runners as they stand in the source (checked on the
syntax tree on every run, `Generated/Src.lean`): whatever the payload raises - `BaseException`, not just
`Exception` - is a failure, a returned `None` is the only silent outcome, anything else returned becomes
an `OrphanedReturn` carrying the payload and the value.  That is `Out.failing` of the LTS:
every outcome but `none` fails. -/
theorem gen_monitor_shape : Gen.monitorShapeAsyncio = true ∧ Gen.monitorShapeThread = true ∧
    (∀ o : Out, o.failing = true ↔ o ≠ .none) := by
  refine ⟨by decide, by decide, fun o => ?_⟩
  cases o <;> simp [Out.failing]

/-- `MetaRunner.run` as written in the source (its one try statement, re-read on every run): a
KeyboardInterrupt ends the run by a normal return, any other `Exception` leaves as
`RuntimeError … from` it, every other `BaseException` leaves as it is, the `finally` only logs -
the three results `Res.returned`, `Res.raisedRT`, `Res.raisedBase` of the LTS's `endRun` -/
theorem gen_run_outcome :
    Gen.runOutcome = [("KeyboardInterrupt", "return"), ("Exception", "raise RuntimeError from it")] := rfl

/-- the first failure wins and is never forgotten: a failed latch names a payload whose body
really ended with a failing outcome -/
theorem latch_first_wins (s : St) (hr : Reach s) (f : Flav) (p : Nat) (h : s.latch f = .failed p) :
    ∃ o, s.pay p = .done o ∧ o.failing = true :=
  (inv_reach s hr).a.latch_done f p h

/-- **a failure never lets the run return normally**: if some payload's failure (an exception
or a non-None value — falsy values included, `Out.value` has no truthiness) was recorded while
nothing had asked the run to stop, then the run has not returned normally and cannot have —
unless a KeyboardInterrupt intervened ("only a KeyboardInterrupt ends the run without an
error"). Queued, adopted, inside-adopted and service payloads alike: the recording does not
look at where a payload came from. -/
theorem failure_never_returns (s : St) (hr : Reach s) (hf : s.failedQuiet ≠ [])
    (hi : s.gather ≠ .interrupted) (hk : ∀ q, s.pay q ≠ .done .kbd) :
    s.phase ≠ .ended .returned := by
  have inv := (inv_reach s hr).a
  intro he
  rcases inv.ended_returned he with hc | hc | ⟨p, _, hp⟩
  · have closed (f) : s.latch f = .closed := inv.rtask_ok f (inv.gather_completed hc f)
    rcases inv.failed_latch hf with h | h | h <;> rw [closed] at h <;> cases h
  · exact hi hc
  · exact hk p hp

/-- **the cause is sound**: a run that ended with RuntimeError did so because of a payload that
raised an Exception or returned a non-None value; one that ended with a raw BaseException
because of a payload that raised one; with several failures the cause is one of them, never a
bystander -/
theorem cause_sound (s : St) (hr : Reach s) (p : Nat) :
    (s.phase = .ended (.raisedRT p) → ∃ o, s.pay p = .done o ∧ (o = .exc ∨ o = .value)) ∧
    (s.phase = .ended (.raisedBase p) →
      s.pay p = .done .baseExc ∨ s.pay p = .done .sysExit ∨ s.pay p = .done .kbd) :=
  ⟨fun h => ((inv_reach s hr).a.ended_rt p h).2, fun h => ((inv_reach s hr).a.ended_base p h).2⟩

/-- **a normal return needs a reason**: an interrupt, a KeyboardInterrupt of a payload, or an
explicit stop after which every runner task ended without error -/
theorem graceful_only (s : St) (hr : Reach s) (he : s.phase = .ended .returned) :
    s.gather = .interrupted ∨ (∃ p, s.gather = .raised p ∧ s.pay p = .done .kbd) ∨
    (s.gather = .completed ∧ ∀ f, s.rtask f = .ok ∧ s.latch f = .closed) := by
  have inv := (inv_reach s hr).a
  rcases inv.ended_returned he with hc | hc | hc
  · exact Or.inr (Or.inr ⟨hc, fun f => ⟨inv.gather_completed hc f, inv.rtask_ok f (inv.gather_completed hc f)⟩⟩)
  · exact Or.inl hc
  · exact Or.inr (Or.inl hc)

/-- a latch is only closed once the runtime has been asked to stop: while it is quiet every
failure is recorded -/
theorem quiet_records (s : St) (hr : Reach s) (hq : s.quiet) (f : Flav) : s.latch f ≠ .closed :=
  (inv_reach s hr).a.quiet_open hq f

/-- **it never keeps running**: once a failure has been delivered to the runtime (`gather` raised
it) and the coroutine payloads have unwound, the closing steps are enabled one after the other,
each strictly decreases a measure of at most 8, and the run call ends - by raising, never by a
normal return (unless the failure was a KeyboardInterrupt). Thread payloads appear in none of
the conditions: blocked threads do not keep the run alive. -/
theorem failure_ends_run (s : St) (hr : Reach s) (hup : s.phase = .up) (p : Nat) (hg : s.gather = .raised p)
    (hk : s.pay p ≠ .done .kbd) (hq : s.coQuiet) :
    ∃ es s' r, (es.all Ev.closingEv = true) ∧ run s es = some s' ∧ s'.phase = .ended r ∧ r ≠ .returned ∧ es.length ≤ 8 :=
  Runtime.failure_ends_run s hr hup p hg hk hq

/-- **no stall while closing**: in every reachable state that is up, has been asked to stop and
whose coroutine payloads have unwound, some closing step (or the end of the run) is enabled and
makes progress -/
theorem no_stall (s : St) (hr : Reach s) (hup : s.phase = .up) (hc : s.closing) (hq : s.coQuiet) :
    ∃ e s', e.closingEv = true ∧ step s e = some s' ∧ s'.mu < s.mu := by
  obtain ⟨e, s', h1, h2, h3, _⟩ := closing_progress s (inv_reach s hr) hup hc hq
  exact ⟨e, s', h1, h2, h3⟩

/-- a recorded failure always reaches `gather` (the failed runner's task can end and deliver it) -/
theorem failure_delivered (s : St) (f : Flav) (p : Nat) (hup : s.phase = .up)
    (hl : s.latch f = .failed p) (hrt : s.rtask f = .running) (hg : s.gather = .pending) :
    ∃ s1 s2, step s (.rtaskEnd f) = some s1 ∧ step s1 (.gatherRaise f) = some s2 ∧ s2.gather = .raised p ∧ s2.phase = .up := by
  let s1 : St := { s with rtask := step.upd' s.rtask f (.err p) }
  exact ⟨s1, _, (Step.rtaskErr f p hup hrt hl).to_step, (Step.gatherRaise (s := s1) f p (by simp [s1]) hg hup).to_step, rfl, hup⟩

/-! ### non-vacuity: a thread payload returns a falsy value next to an asyncio bystander -/

def trace : List Ev :=
  [.adopt 1 .aio, .acceptBegin 0, .launch, .flush, .start 1 0, .adopt 2 .thr, .start 2 5,
   .bodyEnd 2 .value, .record 2, .rtaskEnd .thr, .gatherRaise .thr, .close .aio, .close .trio,
   .unwound 1, .rtaskEnd .aio, .rtaskEnd .trio, .endRun (.raisedRT 2)]

def viewPhase (o : Option St) : Option (Phase × List Nat) := o.map (fun s => (s.phase, s.failedQuiet))
example : viewPhase (run St.init trace) = some (.ended (.raisedRT 2), [2]) := by decide +kernel
example : (run St.init (trace.dropLast ++ [.endRun .returned])).isNone = true := by decide +kernel

-- the hypotheses of `failure_ends_run` are met after the failure was delivered and the bystander unwound
example : ((run St.init (trace.take 14)).map (fun s => (s.phase, s.gather, s.pay 2, decide s.coQuiet))) =
    some (.up, .raised 2, .done .value, true) := by decide +kernel

/-- The functions this property's part of the model was transcribed from (how a failure travels: the payload
monitors of the three runners, the failure future of the thread runner, the runner tasks, `gather` in
`_manage_runners`, the closing of the runners and `MetaRunner.run` - the events `bodyEnd`, `record`,
`rtaskEnd`, `gatherRaise`, `endRun` of the LTS) still read as they did then (`Gen.pinned`; the table behind
it is recomputed from the source on every run, DESIGN §12.1). The transcription itself is trusted; a changed
function breaks this theorem, and the scenario families are then the search for a failing history. -/
theorem gen_runtime_text :
    ∀ n ∈ ["meta_runner:MetaRunner.run",
     "meta_runner:MetaRunner._manage_runners",
     "meta_runner:MetaRunner._aclose_runners",
     "meta_runner:MetaRunner._launch_runners",
     "meta_runner:MetaRunner._unqueue_payloads",
     "meta_runner:MetaRunner.register_payload",
     "base_runner:BaseRunner.run",
     "base_runner:OrphanedReturn.__init__",
     "asyncio_runner:AsyncioRunner._monitor_payload",
     "asyncio_runner:AsyncioRunner.manage_payloads",
     "asyncio_runner:AsyncioRunner._setup_payload",
     "trio_runner:TrioRunner._monitor_payload",
     "trio_runner:TrioRunner._manage_payloads_trio",
     "trio_runner:TrioRunner._run_trio_blocking",
     "trio_runner:TrioRunner.manage_payloads",
     "thread_runner:ThreadRunner._monitor_payload",
     "thread_runner:ThreadRunner._set_failure",
     "thread_runner:ThreadRunner.manage_payloads",
     "thread_runner:ThreadRunner.register_payload"],
      Gen.pinned n = true := by decide +kernel

end Cobald.Props.C01
