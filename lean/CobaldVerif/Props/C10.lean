/-
C10 — execute hands the payload's outcome to the caller and leaves the runtime alone.
-/
import CobaldVerif.Generated.Src
import CobaldVerif.Lemmas.Runtime
import CobaldVerif.Lemmas.Exec

namespace Cobald.Props.C10
open Cobald Cobald.Runtime

/-- **frame rule**: an execute call — its start and its end, whatever the outcome — leaves the
failure latches, the runner tasks, what `gather` has seen, the phase, the stop request and
every background payload untouched: no failure is recorded, nobody is cancelled -/
theorem exec_frame (s s' : St) (e : Nat) (f : Flav) (t : Nat) (o : Out)
    (h : step s (.execBegin e f t) = some s' ∨ step s (.execEnd e o) = some s') :
    s'.latch = s.latch ∧ s'.rtask = s.rtask ∧ s'.gather = s.gather ∧ s'.phase = s.phase ∧
    s'.stopReq = s.stopReq ∧ s'.pay = s.pay ∧ s'.starts = s.starts ∧ s'.failedQuiet = s.failedQuiet := by
  rcases h with h | h <;> cases Step.of_step h <;> exact ⟨rfl, rfl, rfl, rfl, rfl, rfl, rfl, rfl⟩

/-- the payload runs exactly once per call: an execute that is in flight cannot be begun again,
and it ends exactly once -/
theorem exec_once (s s' : St) (e : Nat) (f : Flav) (t : Nat) (h : step s (.execBegin e f t) = some s') :
    s.execs e = none ∧ s'.execs e = some (f, t) ∧ (∀ f' t', step s' (.execBegin e f' t') = none) := by
  cases Step.of_step h with
  | execBegin _ _ _ _ he _ => exact ⟨he, by simp [upd], fun f' t' => by simp [step, upd]⟩

/-- **in that flavour's runner**: asyncio payloads are executed on the event loop thread, trio
payloads on the trio thread (a threading payload is run by the calling thread) -/
theorem exec_thread (s s' : St) (e : Nat) (f : Flav) (t : Nat) (h : step s (.execBegin e f t) = some s') :
    (f = .aio → s'.loopTid = some t ∧ (s.loopTid = none ∨ s.loopTid = some t)) ∧
    (f = .trio → s'.trioTid = some t ∧ (s.trioTid = none ∨ s.trioTid = some t)) := by
  cases Step.of_step h with
  | execBegin _ _ _ _ _ ht =>
    constructor <;> rintro rfl
    · exact ⟨rfl, (tidOK_aio.1 (ht.resolve_left nofun)).1⟩
    · exact ⟨rfl, (tidOK_trio.1 (ht.resolve_left nofun)).1⟩

/-- the runtime keeps running: an execute can neither end the run nor make it end — `endRun`
is enabled after the call iff it was before -/
theorem exec_keeps_running (s s' : St) (e : Nat) (o : Out) (r : Res) (h : step s (.execEnd e o) = some s') :
    (step s' (.endRun r)).isSome = (step s (.endRun r)).isSome := by
  cases Step.of_step h
  rw [Bool.eq_iff_iff, endRun_enabled, endRun_enabled]
  exact Iff.rfl

/-! ### non-vacuity -/

def trace : List Ev :=
  [.acceptBegin 0, .launch, .flush, .adopt 1 .aio, .start 1 0, .execBegin 7 .trio 1, .execEnd 7 .exc,
   .execBegin 8 .aio 0, .execEnd 8 .value]
example : ((run St.init trace).map (fun s => (s.phase, s.gather, s.pay 1, s.failedQuiet))) =
    some (.up, .pending, .running, []) := by decide +kernel

/-! ### who waits for whom: the blocking model of `execute` (Model/Runtime/Exec.lean)

The full-strength clause "every execute call returns" is false of the code and of the model: an
asyncio payload executing a trio payload while a trio payload executes an asyncio payload block
each other's threads (recorded finding `execute-opposite-deadlock`).  The model shows that this is
the only way an execute call can hang. -/

/-- the deadlock exists: the two opposite calls are reachable, neither payload can start … -/
theorem exec_opposite_deadlock :
    ∃ s, Exec.run Exec.St.init [.call 1 0 1, .call 2 1 0] = some s ∧ s.opposite = true ∧
      Exec.step s (.begin 1) = none ∧ Exec.step s (.begin 2) = none ∧
      Exec.step s (.finish 1) = none ∧ Exec.step s (.finish 2) = none := by
  refine ⟨_, rfl, ?_, ?_, ?_, ?_, ?_⟩ <;> decide

/-- … and it is permanent: whatever happens afterwards (further calls included), the two threads
keep waiting for each other -/
theorem exec_opposite_forever (es : List Exec.Ev) (s s' : Exec.St) (hnd : s.idsNodup) (ho : s.opposite = true)
    (hr : Exec.run s es = some s') : s'.opposite = true :=
  Exec.opposite_forever es s s' hnd ho hr

/-- one step of it: as long as the two coroutine
threads do not wait for each other, some call in flight can always make progress - its payload
can start on its target thread, or it has started and its outcome can be handed to the caller.
Calls go to the event-loop thread, the trio thread, or run in the caller's own thread
(`wellTargeted`). -/
theorem exec_returns_partial (s : Exec.St) (hnd : s.idsNodup) (hw : s.wellTargeted = true) (hne : s.calls ≠ [])
    (hop : s.opposite = false) :
    ∃ id s', Exec.step s (.begin id) = some s' ∨ Exec.step s (.finish id) = some s' :=
  Exec.canProgress_enabled s hnd (Exec.progress_unless_opposite s hw hne hop)

/-- **every execute call returns - unless the two coroutine threads wait for each other**: from any
state without that deadlock all calls in flight can be completed, by payload starts and returns
alone (no further calls needed); with `exec_opposite_forever` this makes the opposite-direction
deadlock the exact condition under which `execute` hangs in the model. What the model leaves out
is the payloads' own behaviour (a payload that never ends never returns) and fairness. -/
theorem exec_returns (s : Exec.St) (hnd : s.idsNodup) (hw : s.wellTargeted = true) (hop : s.opposite = false) :
    ∃ es s', Exec.run s es = some s' ∧ s'.calls = [] ∧ (∀ e ∈ es, ∃ id, e = .begin id ∨ e = .finish id) :=
  Exec.drain s.mu s (Nat.le_refl _) hnd hw hop

-- non-vacuity: three calls in flight (outside -> asyncio, trio -> asyncio, a threading payload run by its caller)
example : ((Exec.run Exec.St.init [.call 1 5 0, .call 2 1 0, .call 3 6 6, .begin 3, .begin 1, .finish 1, .begin 2]).map
    (fun s => (s.calls.map (·.id), s.opposite, s.wellTargeted, s.canProgress))) = some ([2, 3], false, true, true) := by decide

/-- The functions this property's part of the model was transcribed from (the path of an `execute` call:
`ServiceRunner.execute` -> `MetaRunner.run_payload` -> the runner of the flavour; asyncio hands the
coroutine to the loop thread and waits for the future (the outcome travels as a value, `_capture_payload`),
trio uses `trio.from_thread.run`, threading calls the payload in the calling thread - the `caller` /
`target` threads of `Model/Runtime/Exec.lean` and the `execBegin` / `execEnd` events of the LTS) still read
as they did then (`Gen.pinned`; the table behind it is recomputed from the source on every run, DESIGN
§12.1). The transcription itself is trusted; a changed function breaks this theorem, and the scenario
families are then the search for a failing history. -/
theorem gen_runtime_text :
    ∀ n ∈ ["service:ServiceRunner.execute",
     "meta_runner:MetaRunner.run_payload",
     "asyncio_runner:AsyncioRunner.run_payload",
     "asyncio_runner:AsyncioRunner._capture_payload",
     "trio_runner:TrioRunner.run_payload",
     "thread_runner:ThreadRunner.run_payload"],
      Gen.pinned n = true := by decide +kernel

end Cobald.Props.C10
