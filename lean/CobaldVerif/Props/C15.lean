/-
C15 — FactoryPool spawns and releases just enough children.
-/
import CobaldVerif.Lemmas.Factory
import CobaldVerif.Generated.Src
import CobaldVerif.Generated.SrcFactory

namespace Cobald.Props.C15
open Cobald Cobald.Factory

/-- children with no demand left are released; released children have demand 0 -/
theorem no_demand_reaped (st : St) :
    (∀ c ∈ (reap st).hatchery, 0 < c.demand) ∧
    (∀ c ∈ (reap st).mortuary, c ∈ st.mortuary ∨ c.demand = 0) := by
  rw [reap_eq_retire]
  refine ⟨fun c hc => ?_, fun c hc => ?_⟩
  · simpa using (mem_hatchery_retire.mp hc).2
  · exact (mem_mortuary_retire.mp hc).imp_right fun ⟨_, _, _, e⟩ => e ▸ rfl

/-- **growing covers the request, minimally**: after a growing adjustment the children's
demands sum to at least the requested demand, and the children present before plus all
spawned ones but the last do not reach it -/
theorem grow_covers (factory : Nat → Child) (fuel : Nat) (st st' : St) (target : Rat)
    (h : grow factory fuel st target = some st') :
    ∃ new : List Child, (∀ c ∈ new, 0 < c.demand) ∧ st'.spawned = st.spawned + new.length ∧
      (new.length < fuel →
        target ≤ sumD st'.all ∧ (new ≠ [] → sumD st.all + sumD new.dropLast < target)) := by
  obtain ⟨new, rfl, -, hpos, hmin, hcov⟩ := grow_spec h
  -- reaping the hatched state only zeroes demands that were not positive
  exact ⟨new, hpos, rfl, fun hlen =>
    ⟨(hcov hlen).trans (st.sumD_all_hatch new ▸ sumD_le_reap (st.hatch new)), hmin⟩⟩

/-- the children the release pass of `_shrink` picks from the hit list -/
def passReleased : Rat → List Child → List Child
  | _, [] => []
  | excess, c :: rest =>
    if excess ≤ 0 then []
    else if c.demand ≤ excess then c :: passReleased (excess - c.demand) rest
    else passReleased excess rest

/-- the value `excess_demand` has when the pass ends -/
def passExcess : Rat → List Child → Rat
  | excess, [] => excess
  | excess, c :: rest =>
    if excess ≤ 0 then excess
    else if c.demand ≤ excess then passExcess (excess - c.demand) rest
    else passExcess excess rest

/-- the pass is exactly: release the picked children, one after the other. This is what ties
`passReleased`, and with it `shrink_safe` and `shrink_maximal`, to the model's `shrinkPass` -/
theorem shrinkPass_eq (hit : List Child) (st : St) (excess : Rat) :
    shrinkPass st excess hit = (passReleased excess hit).foldl (fun s c => release s c.id) st := by
  fun_induction shrinkPass st excess hit with
  | case1 => rfl
  | case2 _ _ _ _ h1 => rw [passReleased, if_pos h1]; rfl
  | case3 _ _ _ _ h1 h2 ih => rw [passReleased, if_neg h1, if_pos h2]; exact ih
  | case4 _ _ _ _ h1 h2 ih => rw [passReleased, if_neg h1, if_neg h2]; exact ih

theorem passReleased_of_nonpos {excess : Rat} (h : excess ≤ 0) (hit : List Child) :
    passReleased excess hit = [] := by
  cases hit with
  | nil => rfl
  | cons c rest => rw [passReleased, if_pos h]

/-- no assumption on the demands: negative ones included -/
theorem pass_spec (hit : List Child) (excess : Rat) :
    passExcess excess hit = excess - sumD (passReleased excess hit) ∧
    (0 ≤ excess → 0 ≤ passExcess excess hit) := by
  fun_induction passReleased excess hit with
  | case1 excess => exact ⟨(sub_zero _).symm, id⟩
  | case2 excess c rest h1 =>
    rw [passExcess, if_pos h1]
    exact ⟨(sub_zero _).symm, id⟩
  | case3 excess c rest h1 h2 ih =>
    rw [passExcess, if_neg h1, if_pos h2, sumD_cons, ← sub_sub]
    exact ⟨ih.1, fun _ => ih.2 (sub_nonneg.mpr h2)⟩
  | case4 excess c rest h1 h2 ih =>
    rw [passExcess, if_neg h1, if_neg h2]
    exact ih

theorem passExcess_le_max {hit : List Child} (excess : Rat) (h : ∀ c ∈ hit, 0 ≤ c.demand) :
    passExcess excess hit ≤ max excess 0 := by
  fun_induction passExcess excess hit with
  | case1 | case2 => exact le_max_left _ _
  | case3 excess c rest _ _ ih =>
    obtain ⟨hc, hrest⟩ := List.forall_mem_cons.mp h
    exact (ih hrest).trans (max_le_max (sub_le_self _ hc) le_rfl)
  | case4 excess c rest _ _ ih => exact ih (List.forall_mem_cons.mp h).2

/-- **a child is released only if the remaining active demand still covers the request**:
the released demands never exceed the excess (hit-list demand minus request) -/
theorem shrink_safe : ∀ (hit : List Child) (excess : Rat), (∀ c ∈ hit, 0 ≤ c.demand) →
    passExcess excess hit = excess - sumD (passReleased excess hit) ∧
    (0 ≤ excess → 0 ≤ passExcess excess hit) ∧ passExcess excess hit ≤ max excess 0 ∧
    (excess ≤ 0 → passReleased excess hit = []) :=
  fun hit excess h => ⟨(pass_spec hit excess).1, (pass_spec hit excess).2,
    passExcess_le_max excess h, (passReleased_of_nonpos · hit)⟩

/-- **no child that could still be released is kept**: every hit-list child the pass did not
release and that still has demand needs more than the remaining excess -/
theorem shrink_maximal : ∀ (hit : List Child) (excess : Rat), (∀ c ∈ hit, 0 ≤ c.demand) →
    ∀ c ∈ hit, c ∉ passReleased excess hit → 0 < c.demand → passExcess excess hit < c.demand := by
  intro hit excess h c hc hnr hpos
  fun_induction passReleased excess hit with
  | case1 => cases hc
  | case2 excess d rest h1 =>
    rw [passExcess, if_pos h1]
    exact h1.trans_lt hpos
  | case3 excess d rest h1 h2 ih =>
    rw [passExcess, if_neg h1, if_pos h2]
    rcases List.mem_cons.mp hc with rfl | hcr
    · exact absurd List.mem_cons_self hnr
    · exact ih (List.forall_mem_cons.mp h).2 hcr (mt (List.mem_cons_of_mem _) hnr)
  | case4 excess d rest h1 h2 ih =>
    rw [passExcess, if_neg h1, if_neg h2]
    have hrest := (List.forall_mem_cons.mp h).2
    rcases List.mem_cons.mp hc with rfl | hcr
    -- the child that did not fit: the excess was below its demand then, and has not risen since
    · exact ((passExcess_le_max excess hrest).trans_eq (max_eq_left (not_le.mp h1).le)).trans_lt
        (not_le.mp h2)
    · exact ih hrest hcr hnr

/-- released children have demand 0 and leave the hatchery -/
theorem released_zero (st : St) (i : Nat) :
    (∀ c ∈ (release st i).hatchery, c.id ≠ i) ∧
    (∀ c ∈ (release st i).mortuary, c ∈ st.mortuary ∨ (c.id = i ∧ c.demand = 0)) := by
  rw [release_eq_retire]
  refine ⟨fun c hc => ?_, fun c hc => ?_⟩
  · simpa using (mem_hatchery_retire.mp hc).2
  · exact (mem_mortuary_retire.mp hc).imp_right fun ⟨_, _, hd, e⟩ => e ▸ ⟨by simpa using hd, rfl⟩

/-- **children are only ever created by the factory**: a growing adjustment adds as many children
as it made factory calls -/
theorem only_factory_creates_grow (factory : Nat → Child) (fuel : Nat) (st st' : St) (target : Rat)
    (h : grow factory fuel st target = some st') :
    st'.all.length = st.all.length + (st'.spawned - st.spawned) := by
  obtain ⟨new, rfl, -⟩ := grow_spec h
  rw [(retired_reap _).length_all, (st.all_hatch_perm new).length_eq, List.length_append]
  show _ = _ + (st.spawned + new.length - st.spawned)
  rw [Nat.add_sub_cancel_left]

/-- a shrinking adjustment adds no child and does not call the factory -/
theorem only_factory_creates_shrink (st : St) (target : Rat) (order : List Nat) :
    (shrink st target order).all.length = st.all.length ∧ (shrink st target order).spawned = st.spawned :=
  ⟨(retired_shrink ..).length_all, (retired_shrink ..).spawned⟩

def ids (l : List Child) : List Nat := l.map (·.id)

/-- every child object exists once, and identities handed out by the factory are fresh -/
structure WF (st : St) : Prop where
  nodup : (ids st.all).Nodup
  bound : ∀ c ∈ st.all, c.id < 1000 + st.spawned

/-- the invariant survives when the children stay the same but for `n` new ones, numbered on
from `1000 + spawned` -/
theorem wf_of_perm {s t : St} {n : Nat} (h : WF s) (hs : t.spawned = s.spawned + n)
    (hp : (ids t.all).Perm (ids s.all ++ List.range' (1000 + s.spawned) n)) : WF t := by
  have hb : ∀ i ∈ ids s.all, i < 1000 + s.spawned := List.forall_mem_map.mpr h.bound
  constructor
  · rw [hp.nodup_iff, List.nodup_append]
    exact ⟨h.nodup, List.nodup_range', fun a ha b hb' =>
      ((hb a ha).trans_le (List.mem_range'_1.mp hb').1).ne⟩
  · intro c hc
    rw [hs, ← Nat.add_assoc]
    rcases List.mem_append.mp (hp.subset (List.mem_map_of_mem hc)) with hi | hi
    · exact Nat.lt_add_right n (hb _ hi)
    · exact (List.mem_range'_1.mp hi).2

theorem wf_retired {s t : St} (h : WF s) (r : Retired s t) : WF t :=
  wf_of_perm (n := 0) h r.spawned (by simpa [ids] using r.ids)

theorem wf_hatch {st : St} {new : List Child} (h : WF st)
    (hid : ids new = List.range' (1000 + st.spawned) new.length) : WF (st.hatch new) :=
  wf_of_perm h rfl (hid ▸ by simpa [ids] using (st.all_hatch_perm new).map (·.id))

/-- the invariant holds after every adjustment -/
theorem wf_adjust (factory : Nat → Child) (fuel : Nat) (st st' : St) (order : List Nat) (h : WF st)
    (ha : adjust factory fuel st order = some st') : WF st' := by
  obtain ⟨new, hid, r⟩ := adjust_population ha
  exact wf_retired (wf_hatch h hid) r

/-- **never both active and released** -/
theorem disjoint (st : St) (h : WF st) : ∀ c ∈ st.hatchery, ∀ d ∈ st.mortuary, c.id ≠ d.id := by
  intro c hc d hd
  have := h.nodup
  simp only [St.all, ids, List.map_append] at this
  exact (List.nodup_append.mp this).2.2 c.id (List.mem_map_of_mem hc) d.id (List.mem_map_of_mem hd)

/-- **released children are never active again**: an adjustment only adds children the factory
just created (fresh identities) to the active set -/
theorem active_only_by_spawn (factory : Nat → Child) (fuel : Nat) (st st' : St) (order : List Nat)
    (ha : adjust factory fuel st order = some st') :
    ∀ c ∈ st'.hatchery, c.id ∈ ids st.hatchery ∨ 1000 + st.spawned ≤ c.id := by
  obtain ⟨new, hid, r⟩ := adjust_population ha
  intro c hc
  rcases List.mem_append.mp (r.hatchery hc) with h | h
  · exact Or.inl (List.mem_map_of_mem h)
  · have : c.id ∈ new.map (·.id) := List.mem_map_of_mem h
    rw [hid] at this
    exact Or.inr (List.mem_range'_1.mp this).1

/-- supply is the sum over all children, utilisation and allocation the mean over those that
have supply (1 if none) -/
theorem aggregates (st : St) (f : Child → Rat) :
    supply st = ((st.hatchery ++ st.mortuary).map (·.supply)).sum ∧
    ((st.all.filter (fun c => 0 < c.supply)) = [] → fitness st f = 1) ∧
    ((st.all.filter (fun c => 0 < c.supply)) ≠ [] →
      fitness st f = ((st.all.filter (fun c => 0 < c.supply)).map f).sum / (st.all.filter (fun c => 0 < c.supply)).length) :=
  ⟨rfl, fun h => if_pos (List.length_eq_zero_iff.mpr h),
    fun h => if_neg (mt List.length_eq_zero_iff.mp h)⟩

-- non-vacuity: a growing adjustment that spawns two children, a release pass that releases one
-- child and keeps the other

def fac : Nat → Child := fun _ => ⟨0, 1, 1, 1, 2⟩
def s0 : St := init [⟨0, 2, 1/2, 1/2, 2⟩, ⟨1, 1, 1, 1, 2⟩]

example : ((grow fac 100 { s0 with demand := 7 } 7).map (fun s => (s.hatchery.map (·.id), s.spawned))) =
    some ([0, 1, 1000, 1001], 2) := by decide +kernel
example : passReleased 3 [⟨0, 2, 1/2, 1/2, 2⟩, ⟨1, 1, 1, 1, 2⟩] = [⟨0, 2, 1/2, 1/2, 2⟩] := by decide +kernel

/-! ### `FactoryPool` as it stands in the source

`Generated/Src.lean` and `Generated/SrcFactory.lean` are re-emitted from the text of
`composite/factory.py` on every run of the check. `run` sleeps one interval first, freezes supply
and demand, and shrinks towards the demand when the condition below holds, grows towards it
otherwise. -/

/-- an adjustment shrinks exactly when the source's condition holds, and grows otherwise -/
theorem gen_adjust_eq (factory : Nat → Child) (fuel : Nat) (st : St) (order : List Nat) :
    adjust factory fuel st order =
      if Gen.factoryShrinks (supply st) st.demand = true then some (shrink st st.demand order)
      else grow factory fuel st st.demand := by
  simp only [adjust, Gen.factoryShrinks, decide_eq_true_eq]

/-- the release pass of `_shrink` as written in the source is the model's -/
theorem gen_shrink_pass_eq : ∀ (hit : List Child) (st : St) (excess : Rat),
    Gen.Factory.shrinkPass st excess hit = shrinkPass st excess hit := by
  intro hit
  induction hit with
  | nil => intros; rfl
  | cons c rest ih => intro st excess; simp only [Gen.Factory.shrinkPass, shrinkPass, ih]

/-- `_shrink` as written in the source: hit list sorted by the source's key, the source's excess, the
source's release pass, then the reaping pass (`gen_reap_eq`) -/
theorem gen_shrink_eq (st : St) (target : Rat) (order : List Nat) :
    shrink st target order =
      (let hit := sortStable Gen.Factory.shrinkKey (inOrder st order)
       reap (Gen.Factory.shrinkPass st (Gen.Factory.shrinkExcess hit target) hit)) := by
  unfold shrink Gen.Factory.shrinkExcess
  simp only [gen_shrink_pass_eq]
  rfl

/-- `_reap_children` releases exactly the hatchery children the source's condition selects -/
theorem gen_reap_eq (st : St) :
    reap st = { st with hatchery := st.hatchery.filter (fun c => !Gen.Factory.reapCond c),
                        mortuary := st.mortuary ++ (st.hatchery.filter (fun c => Gen.Factory.reapCond c)).map (fun c => { c with demand := 0 }) } :=
  reap_eq_retire st

/-- the spawn loop of `_grow` goes on exactly while the source's condition holds -/
theorem gen_grow_continues (factory : Nat → Child) (fuel : Nat) (st : St) (missing : Rat) :
    (¬ Gen.Factory.growContinues missing → growLoop factory (fuel + 1) st missing = some st) ∧
    (Gen.Factory.growContinues missing → growLoop factory (fuel + 1) st missing =
      (let c : Child := { factory st.spawned with id := 1000 + st.spawned }
       if c.demand ≤ 0 then none
       else growLoop factory fuel { st with hatchery := st.hatchery ++ [c], spawned := st.spawned + 1 } (missing - c.demand))) :=
  ⟨fun h => by rw [growLoop, if_pos (not_lt.mp h)], fun h => by rw [growLoop, if_neg (not_le.mpr h)]⟩

/-- supply, utilisation and allocation as written in the source are the model's -/
theorem gen_aggregates_eq (st : St) :
    Gen.Factory.supply st = supply st ∧ Gen.Factory.utilisation st = fitness st (·.util) ∧
    Gen.Factory.allocation st = fitness st (·.alloc) ∧ Gen.Factory.releaseShape = true := by
  -- the generated text tests the number of active children against 0 in ℚ, the model in ℕ
  refine ⟨rfl, ?_, ?_, rfl⟩
  · simp only [Gen.Factory.utilisation, fitness, Nat.cast_eq_zero]
  · simp only [Gen.Factory.allocation, fitness, Nat.cast_eq_zero]

end Cobald.Props.C15
