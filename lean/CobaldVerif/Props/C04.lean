/-
C04 — A `>>` chain builds exactly the nested pipeline, however grouped or curried.
-/
import CobaldVerif.Generated.Src
import CobaldVerif.Lemmas.Partial

namespace Cobald.Props.C04
open Cobald Cobald.Partial

/-- **every grouping gives the hand-nested pipeline**: an expression whose in-order leaves are
non-leaf templates `hs` followed by one tail (a pool instance, a pool template or a curried
pool template) evaluates, for every parenthesisation of the `>>` operators, to the object
nested by hand; the tail is constructed first (if it is a template), then `hs` last to
first, each exactly once; each element receives the next one as its target together with its
own positional and keyword arguments (`Obj.built t (some target)`) -/
theorem chain_assoc (e : Expr) :
    ∀ (hs : List Item) (tl : Item) (o : Obj) (l0 : Log),
      leaves e = hs ++ [tl] → hs ≠ [] → (∀ i ∈ hs, isHead i = true) → tailObj tl = some (o, l0) →
      eval e = some (.obj (nest (tmplsOf hs) o), l0 ++ (tmplsOf hs).reverse) := by
  induction e with
  | leaf i =>
    intro hs tl o l0 hl hne
    cases hs with
    | nil => exact absurd rfl hne
    | cons a as => simp at hl
  | shift l r _ ihr =>
    intro hs tl o l0 hl _ hh ht
    obtain ⟨hs2, hr, rfl⟩ := split_last _ _ _ _ (leaves_ne_nil r) hl
    obtain ⟨a, ea, na, fa, oa⟩ := eval_heads l fun i hi => hh i (List.mem_append_left _ hi)
    -- `r` is the tail itself, or a chain that has already been bound to it
    by_cases h2 : hs2 = []
    · subst h2
      obtain rfl := leaves_singleton r tl hr
      simpa [fa] using eval_shift ea (r := .leaf tl) rfl (rshift_tail na oa ht)
    · have er := ihr hs2 tl o l0 hr h2 (fun i hi => hh i (List.mem_append_right _ hi)) ht
      simpa [fa, tmplsOf_append, nest_append] using eval_shift ea er (rshift_obj a _ na oa)

/-- a single template bound to its tail (chain of length one) -/
theorem chain_single (t : Tmpl) (tl : Item) (o : Obj) (l0 : Log) (ht : t.leaf = false)
    (h : tailObj tl = some (o, l0)) :
    eval (.shift (.leaf (.tmpl t)) (.leaf tl)) = some (.obj (.built t (some o)), l0 ++ [t]) := by
  simpa using chain_assoc (.shift (.leaf (.tmpl t)) (.leaf tl)) [.tmpl t] tl o l0 rfl (by simp)
    (by simp [isHead, ht]) h

/-- **arguments that can bind are never rejected**: if some completion of the supplied
positionals and keywords is a valid call, the partial arguments pass the check -/
theorem bindable_accepted (s : Sig) (n n' : Nat) (kw kw' : List String)
    (h : s.callBinds (n + n') (kw ++ kw') = true) : s.bindPartial n kw = true :=
  Sig.bindPartial_mono ((s.callBinds_eq_true _ _).mp h).1

/-- the completion used below: every still unfilled parameter without default, by keyword -/
def missing (s : Sig) (n : Nat) (kw : List String) : List String :=
  (((s.pos.drop n) ++ s.kwOnly).filter (fun p => !p.hasDefault && !kw.contains p.name)).map (·.name)

/-- **arguments that can never bind are rejected** (contrapositive): whatever passes the check
can be completed to a valid call — by supplying the missing parameters by keyword.
`(s.names).Nodup`: parameter names of a Python signature are distinct -/
theorem accepted_bindable (s : Sig) (n : Nat) (kw : List String) (hnd : s.names.Nodup)
    (h : s.bindPartial n kw = true) :
    s.callBinds (n + 0) (kw ++ missing s n kw) = true := by
  rw [Nat.add_zero, Sig.callBinds_eq_true]
  refine ⟨?_, fun p hp => ?_⟩
  · -- the keywords of `kw` are acceptable by `h`, the missing ones name parameters not yet filled
    rw [Sig.bindPartial_eq_true] at h ⊢
    refine ⟨h.1, List.forall_mem_append.mpr ⟨h.2, fun k hk => Sig.kwOK_of_mem_drop hnd ?_⟩⟩
    exact List.map_subset _ List.filter_sublist.subset hk
  · by_cases hd : p.hasDefault = true
    · exact .inl hd
    · by_cases hk : p.name ∈ kw
      · exact .inr (List.mem_append_left _ hk)
      · exact .inr (List.mem_append_right _ (List.mem_map.mpr
          ⟨p, List.mem_filter.mpr ⟨hp, by simp [hd, hk]⟩, rfl⟩))

/-- passing the target by call is always rejected -/
theorem target_rejected (sigOf : Nat → Sig) (t : Tmpl) (a : Arg) :
    ((t.kwargs.map (·.1)).contains "target" = true → t.check sigOf = false) ∧
    (t.leaf = false → t.args = a :: t.args.tail → a.isPool = true → t.check sigOf = false) := by
  constructor
  · intro h
    simp only [Tmpl.check, h, Bool.not_true, Bool.false_and]
  · intro hl ha hp
    rw [Tmpl.check, ha]
    simp only [hl, hp, Bool.not_false, Bool.true_and, Bool.not_true, Bool.and_false, Bool.false_and]

/-- too many positionals, or an unknown keyword, are rejected at once -/
theorem excess_rejected (s : Sig) (n : Nat) (kw : List String) :
    (s.varPos = false → s.pos.length < n → s.bindPartial n kw = false) ∧
    (∀ k ∈ kw, s.varKw = false → k ∉ s.names → s.bindPartial n kw = false) := by
  constructor
  · intro hv hn
    simp [Sig.bindPartial, hv, Nat.not_le.mpr hn]
  · intro k hk hv hnot
    rw [Bool.eq_false_iff]
    intro h
    simpa [hnot, hv] using ((s.kwOK_eq_true n k).mp (((s.bindPartial_eq_true n kw).mp h).2 k hk)).2

/-- the check runs at creation and at every curry call (eagerly) -/
theorem eager (sigOf : Nat → Sig) (t t' : Tmpl) (args : List Arg) (kwargs : List (String × Arg))
    (h : t.call sigOf args kwargs = some t') : t'.check sigOf = true ∧
      t' = { ctor := t.ctor, args := t.args ++ args, kwargs := t.kwargs ++ kwargs, leaf := t.leaf } :=
  (Tmpl.call_eq_some.mp h).2

/-- splitting the arguments over two calls gives the same template as supplying them at once -/
theorem curry_split (sigOf : Nat → Sig) (t t1 t2 : Tmpl) (a1 a2 : List Arg) (k1 k2 : List (String × Arg))
    (h1 : t.call sigOf a1 k1 = some t1) (h2 : t1.call sigOf a2 k2 = some t2) :
    t.call sigOf (a1 ++ a2) (k1 ++ k2) = some t2 := by
  obtain ⟨d1, _, rfl⟩ := Tmpl.call_eq_some.mp h1
  obtain ⟨d2, c2, rfl⟩ := Tmpl.call_eq_some.mp h2
  refine Tmpl.call_eq_some.mpr ⟨fun kv hkv => ?_, c2, by simp⟩
  rcases List.mem_append.mp hkv with hkv | hkv
  · exact d1 kv hkv
  · exact fun hm => d2 kv hkv (by simp only [List.map_append, List.mem_append]; exact .inl hm)

/-- a keyword supplied twice over the calls is a TypeError -/
theorem duplicate_rejected (sigOf : Nat → Sig) (t : Tmpl) (args : List Arg) (kwargs : List (String × Arg))
    (k : String) (a : Arg) (hk : (k, a) ∈ kwargs) (hdup : k ∈ t.kwargs.map (·.1)) :
    t.call sigOf args kwargs = none :=
  Option.eq_none_iff_forall_ne_some.mpr fun _ h => (Tmpl.call_eq_some.mp h).1 (k, a) hk hdup

/-! ### non-vacuity -/

def c  : Item := .tmpl ⟨0, [⟨1, false⟩], [("k", ⟨9, false⟩)], false⟩
def d1 : Item := .tmpl ⟨1, [⟨2, false⟩], [], false⟩
def d2 : Item := .tmpl ⟨1, [⟨3, false⟩], [], false⟩
def p  : Item := .obj (.pool 7)
def pt : Item := .tmpl ⟨5, [], [], true⟩

open Expr in
example :
    let L := leaf
    [ eval (shift (shift (shift (L c) (L d1)) (L d2)) (L p)),
      eval (shift (L c) (shift (L d1) (shift (L d2) (L p)))),
      eval (shift (shift (L c) (L d1)) (shift (L d2) (L pt))),
      eval (shift (shift (L c) (shift (L d1) (L d2))) (L pt)),
      eval (shift (L c) (shift (shift (L d1) (L d2)) (L p))) ].map (fun r => r.isSome) = [true, true, true, true, true] := by
  decide +kernel

-- the suite's signature `(target, a, b, c=3, *, kwa=2, kwb=3)`
def exSig : Sig := ⟨[⟨"target", false⟩, ⟨"a", false⟩, ⟨"b", false⟩, ⟨"c", true⟩], false, [⟨"kwa", true⟩, ⟨"kwb", true⟩], false⟩
example : exSig.names.Nodup := by decide +kernel
example : exSig.bindPartial 2 ["kwa"] = true ∧ exSig.bindPartial 5 [] = false ∧
    exSig.bindPartial 2 ["a"] = false ∧ exSig.bindPartial 1 ["zz"] = false := by decide +kernel
example : exSig.callBinds 2 (["kwa"] ++ missing exSig 2 ["kwa"]) = true := by decide +kernel

/-! ### the source text the model was transcribed from

`cobald/interfaces/_partial.py`: `Partial` (construction with the eager signature check, currying, `>>`, `__construct__`) and `PartialBind` - the definitions `Tmpl`, `rshift`, `Sig.bindPartial`, `Tmpl.call` of `Model/Partial.lean` were transcribed from them.
`Gen.runtimePins` (recomputed on every run) says for each of these functions whether its normalised
text is still the text of `harness/vh/pins.json`; a changed function breaks this theorem and the
correspondence streams are then the search for a failing input. -/

theorem gen_source_text :
    ∀ n ∈ ["partial:Partial.__init__",
     "partial:Partial._check_signature",
     "partial:Partial._signature",
     "partial:Partial.__call__",
     "partial:Partial.__construct__",
     "partial:Partial.__rshift__",
     "partial:PartialBind.__init__",
     "partial:PartialBind.__rshift__"],
      Gen.pinned n = true := by decide +kernel

end Cobald.Props.C04
