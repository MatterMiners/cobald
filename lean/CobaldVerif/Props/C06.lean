/-
C06 — Standardiser always keeps the forwarded demand within its limits.
Every theorem is for all accepted parameters `p` (`p.ok` = what the constructor enforces),
all states `st` (any supply, any history) and all finite written values `v`.
-/
import CobaldVerif.Lemmas.Standardiser
import CobaldVerif.Generated.Src
import CobaldVerif.Generated.SrcStandardiser

namespace Cobald.Props.C06
open Cobald Cobald.ERat Cobald.Standardiser

/-- the demand that reaches the target lies within [minimum, maximum] -/
theorem fwd_mem_minmax (p : Params) (hp : p.ok) (st : St) (v : Rat) :
    p.min ≤ (write p st v).pool.demand ∧ (write p st v).pool.demand ≤ p.max :=
  fwd_mem hp st.pool.supply v

/-- … and within [supply - backlog, supply + surplus] unless minimum/maximum force otherwise:
it leaves the window only by sitting on `minimum` with the whole window below it, or on
`maximum` with the whole window above it -/
def WindowOrForced (p : Params) (s : Rat) (d : ERat) : Prop :=
  (winLo p s ≤ d ∧ d ≤ winHi p s) ∨ (d = p.min ∧ winHi p s < p.min) ∨ (d = p.max ∧ p.max < winLo p s)

theorem cd_window_or_forced (p : Params) (hp : p.ok) (s x : Rat) : WindowOrForced p s (cd p s x) := by
  have hw := win_le p hp s
  rcases clamp_interval hp.1 (winLo p s) (winHi p s) with h | ⟨c, h⟩ | ⟨c, h⟩
  · exact .inl (h _ (clamp_ge _ hw) (clamp_le _ hw))
  · exact .inr (.inl ⟨h _ (clamp_le _ hw), c⟩)
  · exact .inr (.inr ⟨h _ (clamp_ge _ hw), c⟩)

theorem fwd_window_or_forced (p : Params) (hp : p.ok) (st : St) (v : Rat) :
    WindowOrForced p st.pool.supply (write p st v).pool.demand := by
  obtain ⟨w, hw, -⟩ := fwd_eq_cd p hp.2.2.2 st.pool.supply v
  rw [show (write p st v).pool.demand = cd p st.pool.supply w from hw]
  exact cd_window_or_forced p hp _ w

/-- rounding down to a multiple of the granularity -/
theorem floor_spec (v g : Rat) (hg : 0 < g) :
    (∃ k : Int, floorTo v g = k * g) ∧ floorTo v g ≤ v ∧ v < floorTo v g + g :=
  ⟨floorTo_multiple v g, floorTo_le v g hg, lt_floorTo_add v g hg⟩

/-- when no limit interferes the forwarded demand is the written value rounded down to a
multiple of the granularity (granularity ≠ 1) -/
theorem fwd_floor_when_free (p : Params) (st : St) (v : Rat) (hg : p.g ≠ 1)
    (h1 : p.min ≤ fin (floorTo v p.g)) (h2 : fin (floorTo v p.g) ≤ p.max)
    (h3 : winLo p st.pool.supply ≤ fin (floorTo v p.g)) (h4 : fin (floorTo v p.g) ≤ winHi p st.pool.supply) :
    (write p st v).pool.demand = fin (floorTo v p.g) :=
  (if_pos hg).trans (cd_free h1 h2 h3 h4)

/-- with the default granularity 1 (no granularity limit) the value is forwarded as limited -/
theorem fwd_g1 (p : Params) (st : St) (v : Rat) (hg : p.g = 1) :
    (write p st v).pool.demand = cd p st.pool.supply v ∧
    (p.min ≤ fin v → fin v ≤ p.max → winLo p st.pool.supply ≤ fin v → fin v ≤ winHi p st.pool.supply →
      (write p st v).pool.demand = fin v) :=
  have h : (write p st v).pool.demand = cd p st.pool.supply v := if_neg (not_not.2 hg)
  ⟨h, fun h1 h2 h3 h4 => h.trans (cd_free h1 h2 h3 h4)⟩

/-- the read-back after a write is less than one granule from the target's demand … -/
theorem readback_near (p : Params) (hp : p.ok) (s v : Rat) :
    farApart (cd p s v) (fwd p s v) p.g = false := by
  obtain ⟨lo, hi, hle, hcd⟩ := cd_clamp p hp s
  obtain ⟨w, hw, h1, h2⟩ := fwd_eq_cd p hp.2.2.2 s v
  rw [hw, hcd, hcd]
  exact clamp_near hle ⟨fin_le_fin.2 h1, le_rfl⟩ ⟨le_rfl, fin_le_fin.2 h1⟩ hp.2.2.2 (sub_lt_iff_lt_add'.2 h2)

/-- … and is the limited but unrounded value -/
theorem readback_eq (p : Params) (hp : p.ok) (st : St) (v : Rat) :
    Standardiser.read p (write p st v) = (write p st v, cd p st.pool.supply v) :=
  if_neg (ne_true_of_eq_false (readback_near p hp st.pool.supply v))

/-- the read-back obeys the same limits -/
theorem readback_limits (p : Params) (hp : p.ok) (st : St) (v : Rat) :
    (p.min ≤ (Standardiser.read p (write p st v)).2 ∧ (Standardiser.read p (write p st v)).2 ≤ p.max) ∧
    WindowOrForced p st.pool.supply (Standardiser.read p (write p st v)).2 := by
  rw [readback_eq p hp]
  exact ⟨⟨clamp_ge _ hp.1, clamp_le _ hp.1⟩, cd_window_or_forced p hp _ _⟩

/-- history form: in *any* state (after any sequence of writes, reads, supply changes and
outside changes of the target's demand) the value a read returns is less than one granule
away from the target's demand at that moment -/
theorem read_near_always (p : Params) (hp : p.ok) (st : St) :
    farApart (Standardiser.read p st).2 (Standardiser.read p st).1.pool.demand p.g = false := by
  unfold Standardiser.read
  split_ifs with h
  · exact farApart_self _ _ hp.2.2.2
  · exact eq_false_of_ne_true h

theorem read_near_after_run (p : Params) (hp : p.ok) (st : St) (ops : List Op) :
    farApart (Standardiser.read p (run p st ops)).2 (Standardiser.read p (run p st ops)).1.pool.demand p.g = false :=
  read_near_always p hp _

/-- supply, utilisation and allocation are passed through unchanged by every operation of
the decorator itself -/
theorem passthrough (p : Params) (st : St) (v : Rat) :
    getSupply (write p st v) = st.pool.supply ∧ getUtil (write p st v) = st.pool.util ∧
    getAlloc (write p st v) = st.pool.alloc ∧
    getSupply (Standardiser.read p st).1 = st.pool.supply ∧ getUtil (Standardiser.read p st).1 = st.pool.util ∧
    getAlloc (Standardiser.read p st).1 = st.pool.alloc := by
  simp only [getSupply, getUtil, getAlloc, write, Standardiser.read]
  split_ifs <;> simp

theorem incr_write (p : Params) (hp : p.ok) (st : St) {v x : Rat} (k : Rat)
    (h : cd p st.pool.supply v = fin x) : incr p (write p st v) k = write p st (x + k) := by
  unfold incr; rw [readback_eq p hp, h]; rfl

/-- the closed form behind the increments clause: after `m` increments of `k ≥ 0` the decorator is in a state
that a single write leaves, and reads back `cd (x0 + m * k)`, where `x0` is the first read-back (`clamp_shift`) -/
theorem incrN_write (p : Params) (hp : p.ok) (st : St) {v0 x0 k : Rat} (h0 : cd p st.pool.supply v0 = fin x0)
    (hk : 0 ≤ k) (m : Nat) :
    ∃ w, incrN p (write p st v0) k m = write p st w ∧
      cd p st.pool.supply w = cd p st.pool.supply (x0 + m * k) := by
  obtain ⟨lo, hi, hle, hcd⟩ := cd_clamp p hp st.pool.supply
  have hlo : lo ≤ fin x0 := h0 ▸ hcd v0 ▸ clamp_ge _ hle
  have hhi : fin x0 ≤ hi := h0 ▸ hcd v0 ▸ clamp_le _ hle
  induction m with
  | zero => exact ⟨v0, rfl, by rw [Nat.cast_zero, zero_mul, add_zero, h0, hcd, clamp_id hlo hhi]⟩
  | succ m ih =>
    obtain ⟨w, hw, hcw⟩ := ih
    obtain ⟨y, hy⟩ := clamp_fin_all hlo hhi (x0 + m * k)
    rw [hcd (x0 + m * k), hy] at hcw
    refine ⟨y + k, by rw [incrN, hw, incr_write p hp st k hcw], ?_⟩
    rw [hcd, hcd, Nat.cast_succ, add_mul, one_mul, ← add_assoc]
    exact clamp_shift hle (hlo.trans (fin_le_fin.2 (le_add_of_nonneg_right (mul_nonneg m.cast_nonneg hk)))) hk hy

/-- `n` increments of `k ≥ 0` have the same effect on the demand read back as one increment of `n * k` -/
theorem increments_nonneg_eq_single (p : Params) (hp : p.ok) (st : St) (v0 : Rat) (n : Nat)
    (hfin : (cd p st.pool.supply v0).isFin = true) (k : Rat) (hk : 0 ≤ k) :
    (Standardiser.read p (incrN p (write p st v0) k n)).2 =
      (Standardiser.read p (incr p (write p st v0) (n * k))).2 := by
  obtain ⟨x0, hx0⟩ := isFin_iff.1 hfin
  obtain ⟨w, hw, hcw⟩ := incrN_write p hp st hx0 hk n
  rw [hw, readback_eq p hp, incr_write p hp st _ hx0, readback_eq p hp, hcw]

/-- `n` increments of 1 have the same effect on the demand read back as one increment of `n`
(constant supply, no outside change in between; the read-back values are finite) -/
theorem increments_eq_single (p : Params) (hp : p.ok) (st : St) (v0 : Rat) (n : Nat)
    (hfin : (cd p st.pool.supply v0).isFin = true) :
    (Standardiser.read p (incrN p (write p st v0) 1 n)).2 =
      (Standardiser.read p (incr p (write p st v0) n)).2 := by
  have h := increments_nonneg_eq_single p hp st v0 n hfin 1 zero_le_one
  rwa [mul_one] at h

/-! ### non-vacuity: the hypotheses are met by concrete, non-trivial instances -/

def exP : Params := { min := fin (2/3), max := fin 40, g := 3/2, backlog := fin 7, surplus := fin (5/2) }
def exSt : St := init { supply := 10, demand := fin 0, util := 1/2, alloc := 1/2 }

example : exP.ok := by decide +kernel
-- a write of 100/7 is floored to 27/2, then limited by the window [3, 25/2]
example : (write exP exSt (100/7)).pool.demand = fin (25/2) := by decide +kernel
example : (Standardiser.read exP (write exP exSt (100/7))).2 = fin (25/2) := by decide +kernel
-- the free case: 8 is floored to 15/2 and no limit interferes
example : exP.g ≠ 1 ∧ exP.min ≤ fin (floorTo 8 exP.g) ∧ fin (floorTo 8 exP.g) ≤ exP.max ∧
    winLo exP exSt.pool.supply ≤ fin (floorTo 8 exP.g) ∧ fin (floorTo 8 exP.g) ≤ winHi exP exSt.pool.supply := by
  decide +kernel
example : (cd exP exSt.pool.supply 5).isFin = true := by decide +kernel
example : (Standardiser.read exP (incrN exP (write exP exSt 5) 1 4)).2 = fin 9 := by decide +kernel

/-! ### the source's `_clamp`

`Generated/Src.lean` is re-emitted from the text of `decorator/standardiser.py` on every run. -/

/-- `_clamp` as written in the source is the model's `clamp` (on which every theorem above rests) -/
theorem gen_clamp_eq (low v high : ERat) : Gen.clamp low v high = clamp low v high := rfl

/-- `_floor(n, base)` (`n // base * base`) as written in the source is the model's `floorTo` -/
theorem gen_floor_eq (n g : Rat) : Gen.floor n g = floorTo n g := rfl

/-! ### the source's `_clamp_demand`, demand setter, demand getter and constructor checks
(`Generated/SrcStandardiser.lean`) -/

/-- `_clamp_demand` as written in the source is the model's `cd` -/
theorem gen_clamp_demand_eq (p : Params) (s v : Rat) : Gen.Standardiser.clampDemand p s v = cd p s v := rfl

/-- the demand setter as written in the source stores and forwards what the model's `write` does -/
theorem gen_write_eq (p : Params) (st : St) (v : Rat) :
    (write p st v).stored = Gen.Standardiser.stored p st.pool.supply v ∧
    (write p st v).pool.demand = Gen.Standardiser.forwarded p st.pool.supply v ∧
    (write p st v).pool.supply = st.pool.supply := ⟨rfl, rfl, rfl⟩

/-- the demand getter as written in the source is the model's `read` -/
theorem gen_read_eq (p : Params) (st : St) :
    Standardiser.read p st = ({ st with stored := (Gen.Standardiser.read p st.stored st.pool.demand).1 },
                 (Gen.Standardiser.read p st.stored st.pool.demand).2) := by
  unfold Standardiser.read Gen.Standardiser.read
  split_ifs <;> rfl

/-- the constructor enforces exactly `Params.ok` -/
theorem gen_ok_iff (p : Params) : Gen.Standardiser.ok p ↔ p.ok := Iff.rfl

/-- **end to end, about the text of the source**: for parameters the constructor's own checks accept, what the
demand setter of `standardiser.py` (as regenerated on this run) forwards to the target lies within
[minimum, maximum], and within the supply window unless minimum / maximum force it out -/
theorem gen_forwarded_in_limits (p : Params) (hp : Gen.Standardiser.ok p) (s v : Rat) :
    p.min ≤ Gen.Standardiser.forwarded p s v ∧ Gen.Standardiser.forwarded p s v ≤ p.max ∧
    WindowOrForced p s (Gen.Standardiser.forwarded p s v) :=
  -- `forwarded p s v` is by definition what `write` forwards from any state whose supply is `s`
  ⟨(fwd_mem hp s v).1, (fwd_mem hp s v).2, fwd_window_or_forced p hp ⟨⟨s, fin 0, 0, 0⟩, fin 0⟩ v⟩

/-! ### every supply, the infinite ones included -/

/-- at a finite supply the extended definitions are the ordinary ones -/
theorem cdE_fin (p : Params) (s v : Rat) : cdE p (fin s) v = cd p s v := by
  rw [cdE, clampO_eq]
  rfl

theorem fwdE_fin (p : Params) (s v : Rat) : fwdE p (fin s) v = fwd p s v := by
  rw [fwdE, cdE_fin, cdE_fin, fwd]

/-- whatever supply the pool reports - finite or infinite - the forwarded demand lies within
[minimum, maximum] -/
theorem fwdE_mem_minmax (p : Params) (hp : p.ok) (s : ERat) (v : Rat) :
    p.min ≤ fwdE p s v ∧ fwdE p s v ≤ p.max := by
  unfold fwdE
  split_ifs <;> exact ⟨clamp_ge _ hp.1, clamp_le _ hp.1⟩

/-- with an infinite supply and the default (infinite) backlog the window imposes nothing from
below: a value that minimum / maximum admit is forwarded as it is (granularity 1) -/
theorem fwdE_pinf_free (p : Params) (v : Rat) (hg : p.g = 1) (hb : p.backlog = pinf)
    (h1 : p.min ≤ fin v) (h2 : fin v ≤ p.max) : fwdE p pinf v = fin v := by
  have hlo : (winLoE p pinf).getD ninf = ninf := by simp [winLoE, hb]
  have hhi : (winHiE p pinf).getD pinf = pinf := by cases hs : p.surplus <;> simp [winHiE, hs]
  rw [fwdE, if_neg (not_not.2 hg), cdE, clampO_eq, hlo, hhi, clamp_id (ninf_le _) (le_pinf _), clamp_id h1 h2]

end Cobald.Props.C06
