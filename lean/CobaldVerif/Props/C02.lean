/-
C02 — Termination cancels every coroutine payload and finishes its cleanup first.
-/
import CobaldVerif.Generated.Src
import CobaldVerif.Lemmas.RuntimeProgress

namespace Cobald.Props.C02
open Cobald Cobald.Runtime

/-- **when the run call has ended — for whatever reason — no coroutine payload is still
executing**: each one has finished, or was cancelled and has finished its cleanup (`unwound`),
or never started -/
theorem ended_all_unwound (s : St) (hr : Reach s) (r : Res) (he : s.phase = .ended r) (p : Nat)
    (hco : (s.fl p).isCo = true) : s.coBusy p = false := by
  refine Bool.eq_false_iff.2 fun hb => ?_
  have hup := (inv_reach s hr).c.co_busy_up p hco hb
  rw [he] at hup
  cases hup

/-- a coroutine payload is only ever unwound through its framework's cancellation, which the
runtime triggers by closing the runner: `unwound` is not enabled while the runner is open -/
theorem cancel_through_framework (s s' : St) (p : Nat) (h : step s (.unwound p) = some s') :
    s.pay p = .running ∧ (s.fl p).isCo = true ∧ s.latch (s.fl p) ≠ .opened ∧ s'.pay p = .unwound := by
  cases Step.of_step h with
  | unwound _ hr hc hl => exact ⟨hr, hc, hl, by simp⟩

/-- **no coroutine payload executes a further step after the call has ended**: once the run
has ended, neither `start` nor the end of a body nor a cleanup step of a coroutine payload is
enabled any more -/
theorem no_step_after_end (s : St) (hr : Reach s) (r : Res) (he : s.phase = .ended r) (p : Nat)
    (hco : (s.fl p).isCo = true) :
    (∀ t, step s (.start p t) = none) ∧ (∀ o, step s (.bodyEnd p o) = none) ∧ step s (.unwound p) = none := by
  have hb := ended_all_unwound s hr r he p hco
  have hnr : s.pay p ≠ .running := fun h => by rw [St.coBusy, h] at hb; cases hb
  refine ⟨fun t => ?_, fun o => ?_, ?_⟩
  · have hnt : s.fl p ≠ .thr := fun h => by rw [h] at hco; cases hco
    simp [step, he, hnt]
  · simp [step, hnr]
  · simp [step, hnr]

/-- every termination trigger leads to the same closing procedure: closing a runner is enabled
by a stop request, by an interrupt and by a failure alike -/
theorem closing_uniform (s : St) (f : Flav) (hup : s.phase = .up)
    (h : s.stopReq = true ∨ s.gather = .interrupted ∨ ∃ p, s.gather = .raised p) :
    (step s (.close f)).isSome = true := by
  refine isSome_step.2 ⟨_, .close f hup ?_⟩
  rcases h with h | h | ⟨p, h⟩
  · exact .inl h
  · exact .inr (by rw [h]; nofun)
  · exact .inr (by rw [h]; nofun)

/-- **blocked threads never prevent termination**: the condition under which the closing steps
end the run mentions coroutine payloads only - whatever state a thread payload is in, it is the
same condition … -/
theorem coQuiet_ignores_threads (s : St) (p : Nat) (x : PSt) (hthr : s.fl p = .thr) :
    ({ s with pay := upd s.pay p x } : St).coQuiet ↔ s.coQuiet := by
  -- the test applied to each payload is the same: `p` is no coroutine payload, the others are untouched
  have same (q) : ((s.fl q).isCo && St.coBusy { s with pay := upd s.pay p x } q) = ((s.fl q).isCo && s.coBusy q) := by
    by_cases hq : q = p
    · rw [hq, hthr]; rfl
    · simp only [St.coBusy, upd_apply, if_neg hq]
  simp only [St.coQuiet, same]

/-- … and under it the run call ends after at most 8 closing steps -/
theorem termination_despite_threads (s : St) (hr : Reach s) (hup : s.phase = .up) (hc : s.closing) (hq : s.coQuiet) :
    ∃ es s' r, (es.all Ev.closingEv = true) ∧ run s es = some s' ∧ s'.phase = .ended r ∧ es.length ≤ 8 :=
  closing_terminates s hr hup hc hq

/-- **blocked thread payloads never prevent termination**: whether the run may end does not
depend on the state of any thread payload -/
theorem threads_dont_block (s : St) (r : Res) (p : Nat) (x : PSt) (hthr : s.fl p = .thr)
    (hg : ∀ q, s.gather = .raised q → q ≠ p) :
    (step s (.endRun r)).isSome = (step { s with pay := upd s.pay p x } (.endRun r)).isSome := by
  have hres : St.resultOK { s with pay := upd s.pay p x } r = s.resultOK r := by
    unfold St.resultOK
    cases hgth : s.gather with
    | raised q => simp [upd, hg q hgth]
    | _ => rfl
  rw [Bool.eq_iff_iff, endRun_enabled, endRun_enabled, hres]
  have hq := coQuiet_ignores_threads s p x hthr
  exact ⟨fun ⟨a, b, c, d, e, f⟩ => ⟨a, b, c, d, hq.2 e, f⟩, fun ⟨a, b, c, d, e, f⟩ => ⟨a, b, c, d, hq.1 e, f⟩⟩

/-- **cancellation is always deliverable**: while the run is closing, a coroutine payload that is
still running can be unwound (its runner is closed, then the framework's cancellation exception
arrives), and an outcome that has not been looked at can be processed -/
theorem cancellation_deliverable (s : St) (p : Nat) (hup : s.phase = .up) (hc : s.closing) (hco : (s.fl p).isCo = true) :
    (s.pay p = .running → ∃ s1 s2, step s (.close (s.fl p)) = some s1 ∧ step s1 (.unwound p) = some s2 ∧ s2.pay p = .unwound) ∧
    (∀ o, s.pay p = .ended o → ∃ s', step s (.record p) = some s' ∧ s'.pay p = .done o) :=
  ⟨fun h => unwind_enabled s p hup hc h hco, fun o h => record_enabled s p o h⟩

/-! ### non-vacuity -/

def trace : List Ev :=
  [.acceptBegin 0, .launch, .flush, .adopt 1 .aio, .adopt 2 .trio, .adopt 3 .thr, .start 1 0, .start 2 1, .start 3 2,
   .shutdownCall, .close .trio, .close .aio, .close .thr, .unwound 2, .unwound 1,
   .rtaskEnd .aio, .rtaskEnd .trio, .rtaskEnd .thr, .gatherDone, .endRun .returned]

example : ((run St.init trace).map (fun s => (s.phase, s.pay 1, s.pay 2, s.pay 3))) =
    some (.ended .returned, .unwound, .unwound, .running) := by decide +kernel
-- the run cannot end while a coroutine payload has not finished its cleanup
example : (run St.init ((trace.take 14) ++ [.rtaskEnd .aio, .rtaskEnd .trio, .rtaskEnd .thr, .gatherDone, .endRun .returned])).isNone = true := by
  decide +kernel

-- the hypotheses of `termination_despite_threads` hold with a thread payload still running
example : ((run St.init (trace.take 15)).map (fun s => (s.phase, decide s.closing, decide s.coQuiet, s.pay 3))) =
    some (.up, true, true, .running) := by decide +kernel

/-- The functions this property's part of the model was transcribed from (closing: the events `close`,
`unwound`, `rtaskEnd`, `gatherRaise`, `gatherDone`, `endRun` of the LTS and their guards) still read as they
did then (`Gen.pinned`; the table behind it is recomputed from the source on every run, DESIGN §12.1). The
transcription itself is trusted; a changed function breaks this theorem, and the scenario families are then
the search for a failing history. -/
theorem gen_runtime_text :
    ∀ n ∈ ["asyncio_runner:AsyncioRunner.aclose",
     "asyncio_runner:AsyncioRunner.manage_payloads",
     "asyncio_runner:AsyncioRunner._monitor_payload",
     "trio_runner:TrioRunner.aclose",
     "trio_runner:TrioRunner._aclose_trio",
     "trio_runner:TrioRunner.manage_payloads",
     "trio_runner:TrioRunner._manage_payloads_trio",
     "trio_runner:TrioRunner._monitor_payload",
     "thread_runner:ThreadRunner.aclose",
     "thread_runner:ThreadRunner.manage_payloads",
     "base_runner:BaseRunner.run",
     "base_runner:BaseRunner.stop",
     "base_runner:BaseRunner.aclose",
     "meta_runner:MetaRunner._manage_runners",
     "meta_runner:MetaRunner._aclose_runners",
     "meta_runner:MetaRunner.stop",
     "meta_runner:MetaRunner.run"],
      Gen.pinned n = true := by decide +kernel

end Cobald.Props.C02
