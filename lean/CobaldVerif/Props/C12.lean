/-
C12 — Runtime lifecycle: exclusive accept, shutdown always completes, restart possible.
-/
import CobaldVerif.Lemmas.RuntimeProgress
import CobaldVerif.Generated.Src

namespace Cobald.Props.C12
open Cobald Cobald.Runtime

/-- **at most one runner accepts at a time**: the guard is held exactly while a run is starting
or up; a second accept is not enabled then -/
theorem guard_mutex (s : St) (hr : Reach s) :
    (s.guard ≠ none ↔ (s.phase = .launching ∨ s.phase = .up)) ∧
    (s.guard ≠ none → ∀ r, step s (.acceptBegin r) = none) := by
  have inv := (inv_reach s hr).b
  constructor
  · rw [Ne, inv.guard_phase]
    cases s.phase <;> simp [Phase.restartable]
  · intro hg r
    simp [step, hg]

/-- a concurrent accept raises RuntimeError and leaves the active runner undisturbed: the whole
state is unchanged -/
theorem reject_frame (s s' : St) (r : Nat) (h : step s (.acceptReject r) = some s') :
    s' = s ∧ s.guard ≠ none := by
  cases Step.of_step h with
  | acceptReject _ hg => exact ⟨rfl, hg⟩

/-- **the guard is released however accept ends** — returned, RuntimeError or a raw BaseException -/
theorem guard_released (s : St) (hr : Reach s) (r : Res) (he : s.phase = .ended r) : s.guard = none := by
  rw [(inv_reach s hr).b.guard_phase, he]
  rfl

/-- **a new runner can accept again** after accept has ended in any way, with fresh latches,
runner tasks and flags -/
theorem restart (s : St) (hr : Reach s) (r : Res) (he : s.phase = .ended r) (rid : Nat) :
    ∃ s', step s (.acceptBegin rid) = some s' ∧ s'.phase = .launching ∧ s'.guard = some rid ∧
      (∀ f, s'.latch f = .opened ∧ s'.rtask f = .running) ∧ s'.gather = .pending ∧ s'.stopReq = false := by
  have hg := guard_released s hr r he
  simp [step, hg, he, Phase.restartable]

/-- once the runner is up a stop request is always accepted, and it enables the closing of
every runner -/
theorem shutdown_enabled (s : St) (hup : s.phase = .up) :
    ∃ s', step s .shutdownCall = some s' ∧ s'.stopReq = true ∧ s'.phase = .up ∧
      ∀ f, (step s' (.close f)).isSome = true :=
  ⟨_, (Step.shutdownUp hup).to_step, rfl, hup, fun f => isSome_step.2 ⟨_, .close f hup (.inl rfl)⟩⟩

/-- a stop request alone ends the run normally: with every latch closed by the stop, the runner
tasks end without error, `gather` completes and the only result the run may end with is a
normal return -/
theorem shutdown_returns (s : St) (r : Res) (hc : s.gather = .completed) (h : (step s (.endRun r)).isSome = true) :
    r = .returned :=
  resultOK_not_raised (endRun_enabled.1 h).2.2.2.2.2 (by rw [hc]; nofun)

/-- the `exclusive` guard as it stands in the source of `runners/guard.py` (checked on the syntax
tree on every run, `Generated/Src.lean`): the call is made iff a non-blocking acquire succeeds, the
guard is released in the `finally` of exactly that call, the other branch only raises RuntimeError.
That is what `acceptBegin` / `acceptReject` / the `guard := none` of every `endRun` model. -/
theorem gen_guard_shape : Gen.guardShape = true := by decide

/-- **shutdown always completes**: after a stop request, once the coroutine payloads have unwound
(they can: `C02.cancellation_deliverable`), at most 8 closing steps end the run call - by a normal
return when no failure had been recorded (`clean`), whatever thread payloads are doing -/
theorem shutdown_completes (s : St) (hr : Reach s) (hup : s.phase = .up) (hstop : s.stopReq = true) (hq : s.coQuiet) :
    (∃ es s' r, (es.all Ev.closingEv = true) ∧ run s es = some s' ∧ s'.phase = .ended r ∧ es.length ≤ 8) ∧
    (s.clean → ∃ es s', (es.all Ev.closingEv = true) ∧ run s es = some s' ∧ s'.phase = .ended .returned ∧ es.length ≤ 8) :=
  ⟨closing_terminates s hr hup (Or.inl hstop) hq, fun hcl => closing_returns s hr hup (Or.inl hstop) hq hcl⟩

/-- a KeyboardInterrupt has the same effect -/
theorem interrupt_completes (s : St) (hr : Reach s) (hup : s.phase = .up) (hi : s.gather = .interrupted) (hq : s.coQuiet) :
    ∃ es s' r, (es.all Ev.closingEv = true) ∧ run s es = some s' ∧ s'.phase = .ended r ∧ es.length ≤ 8 :=
  closing_terminates s hr hup (Or.inr (by simp [hi])) hq

/-- shutdown() on a runner that is not running (before accept, after the run has ended in any
way) returns at once and changes nothing -/
theorem shutdown_idle (s : St) (h : s.phase.restartable = true) : step s .shutdownCall = some s :=
  (Step.shutdownIdle h).to_step

/-- **overlapping shutdown requests are one request**: a second `shutdown()` - from the same or from
another thread, at any moment at which the first one was possible - is always possible too and
leaves the runtime in the very state the first one left it in -/
theorem shutdown_twice (s s' : St) (h : step s .shutdownCall = some s') :
    step s' .shutdownCall = some s' := by
  cases Step.of_step h with
  | shutdownUp hp => exact (Step.shutdownUp (s := { s with stopReq := true }) hp).to_step
  | shutdownIdle hp => exact (Step.shutdownIdle hp).to_step

/-! ### non-vacuity: accept, rejected concurrent accept, shutdown, accept again -/

def trace : List Ev :=
  [.acceptBegin 0, .launch, .flush, .acceptReject 1, .shutdownCall, .close .aio, .close .trio, .close .thr,
   .rtaskEnd .aio, .rtaskEnd .trio, .rtaskEnd .thr, .gatherDone, .endRun .returned, .acceptBegin 1, .launch]
example : ((run St.init trace).map (fun s => (s.phase, s.guard))) = some (.up, some 1) := by decide +kernel
example : (run St.init (trace.take 3 ++ [.acceptBegin 1])).isNone = true := by decide +kernel

-- the hypotheses of `shutdown_completes` hold right after the stop request
example : ((run St.init (trace.take 5)).map (fun s => (s.phase, s.stopReq, decide s.coQuiet))) = some (.up, true, true) := by
  decide +kernel

/-- The functions this property's part of the model was transcribed from (the life cycle: `accept` (behind
the `exclusive()` guard, whose shape is `gen_guard_shape`), `shutdown`, the acceptor payload with its
`running` / `_is_shutdown` events, start and stop of the runners - the events `acceptBegin`, `acceptReject`,
`shutdownCall`, `close`, `endRun` of the LTS and the phases of a run) still read as they did then
(`Gen.pinned`; the table behind it is recomputed from the source on every run, DESIGN §12.1). The
transcription itself is trusted; a changed function breaks this theorem, and the scenario families are then
the search for a failing history. -/
theorem gen_runtime_text :
    ∀ n ∈ ["service:ServiceRunner.__init__",
     "service:ServiceRunner.accept",
     "service:ServiceRunner.shutdown",
     "service:ServiceRunner._accept_services",
     "meta_runner:MetaRunner.__init__",
     "meta_runner:MetaRunner.run",
     "meta_runner:MetaRunner.stop",
     "meta_runner:MetaRunner._launch_runners",
     "meta_runner:MetaRunner._aclose_runners",
     "base_runner:BaseRunner.__init__",
     "base_runner:BaseRunner.run",
     "base_runner:BaseRunner.stop"],
      Gen.pinned n = true := by decide +kernel

end Cobald.Props.C12
