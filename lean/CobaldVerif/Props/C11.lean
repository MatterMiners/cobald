/-
C11 — Coroutine payloads of one flavour never run in parallel.
The model's thread axiom (DESIGN §7.1): each thread executes one thing at a time; hence
payloads that share their thread are never between checkpoints at the same instant.
-/
import CobaldVerif.Generated.Src
import CobaldVerif.Lemmas.RuntimeInv

namespace Cobald.Props.C11
open Cobald Cobald.Runtime

/-- **one thread per coroutine flavour**: any two running asyncio payloads run on the same
thread, any two running trio payloads likewise — adopted and service payloads alike, for the
whole life of the runtime -/
theorem one_thread_per_flavour (s : St) (hr : Reach s) (p q : Nat)
    (hp : s.pay p = .running) (hq : s.pay q = .running) (hfl : s.fl p = s.fl q) (hco : (s.fl p).isCo = true) :
    s.tid p = s.tid q ∧ s.tid p ≠ none := by
  have h1 := (inv_reach s hr).c.co_thread hp hco
  have h2 := (inv_reach s hr).c.co_thread hq (hfl ▸ hco)
  exact ⟨h1.1.trans (hfl ▸ h2.1.symm), h1.1 ▸ h1.2⟩

/-- the two coroutine threads are different threads, and thread payloads run outside both -/
theorem threads_apart (s : St) (hr : Reach s) :
    (∀ t, s.loopTid = some t → s.trioTid ≠ some t) ∧
    (∀ t, t ∈ s.thrTids → s.loopTid ≠ some t ∧ s.trioTid ≠ some t) :=
  ⟨(inv_reach s hr).c.tids_distinct, (inv_reach s hr).c.thr_distinct⟩

/-- executed coroutine payloads use the same thread as adopted ones: while an asyncio (trio)
payload is running, an execute of that flavour is only accepted on its thread -/
theorem executed_same_thread (s s' : St) (hr : Reach s) (p e t : Nat) (f : Flav)
    (hp : s.pay p = .running) (hf : s.fl p = f) (hco : f.isCo = true)
    (h : step s (.execBegin e f t) = some s') : s.tid p = some t := by
  subst hf
  have h1 := (inv_reach s hr).c.co_thread hp hco
  cases Step.of_step h with
  | execBegin _ _ _ _ _ ht =>
    rw [h1.1]
    exact (tidOK_co hco (ht.resolve_left fun hthr => by rw [hthr] at hco; cases hco)).resolve_left h1.2

/-- blocking inside thread payloads never stalls coroutine payloads: whether a coroutine
payload may take its next step does not depend on the state of any thread payload -/
theorem coroutines_independent_of_threads (s : St) (p q : Nat) (x : PSt) (o : Out)
    (hq : s.fl q = .thr) (hpq : p ≠ q) :
    (step { s with pay := upd s.pay q x } (.bodyEnd p o)).isSome = (step s (.bodyEnd p o)).isSome := by
  simp only [step, upd, hpq, if_false]
  split <;> simp

/-! ### non-vacuity -/

def trace : List Ev :=
  [.acceptBegin 0, .launch, .flush, .adopt 1 .aio, .adopt 2 .aio, .adopt 3 .trio, .adopt 4 .thr,
   .start 1 0, .start 3 1, .start 2 0, .start 4 2]
example : ((run St.init trace).map (fun s => [s.tid 1, s.tid 2, s.tid 3, s.tid 4])) =
    some [some 0, some 0, some 1, some 2] := by decide +kernel
-- a second asyncio payload on another thread is not a behaviour of the model
example : (run St.init (trace.take 9 ++ [.start 2 5])).isNone = true := by decide +kernel

/-- The functions this property's part of the model was transcribed from (where payloads run: one event
loop, one `trio.run` in one executor thread, one thread per threading payload - the thread ids the acceptor
checks `start` events against) still read as they did then (`Gen.pinned`; the table behind it is recomputed
from the source on every run, DESIGN §12.1). The transcription itself is trusted; a changed function breaks
this theorem, and the scenario families are then the search for a failing history. -/
theorem gen_runtime_text :
    ∀ n ∈ ["asyncio_runner:AsyncioRunner._setup_payload",
     "trio_runner:TrioRunner._run_trio_blocking",
     "trio_runner:TrioRunner._manage_payloads_trio",
     "trio_runner:TrioRunner.manage_payloads",
     "trio_runner:TrioRunner._submit_payload",
     "thread_runner:ThreadRunner.register_payload",
     "meta_runner:MetaRunner._launch_runners",
     "meta_runner:MetaRunner._manage_runners"],
      Gen.pinned n = true := by decide +kernel

end Cobald.Props.C11
