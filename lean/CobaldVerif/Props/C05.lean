/-
C05 — A YAML pipeline section builds the chain it describes.
-/
import CobaldVerif.Model.Pipeline
import CobaldVerif.Props.C04
import CobaldVerif.Generated.Src

namespace Cobald.Props.C05
open Cobald Cobald.Partial Cobald.Pipeline

/-- the pipeline the configuration describes: every element constructed from its own template
with the very next object as target; the last one has no target -/
def specObjs : List Tmpl → List Obj
  | [] => []
  | t :: rest => (.built t ((specObjs rest).head?)) :: specObjs rest

/-- The state of the walk (`prev`, `acc`) is `specObjs` of the templates walked so far. Over
elements that construct, the walk goes on from the state after them: its successful end and
its failure at the first element that raises are both read off this. -/
theorem walk_append (fails : Tmpl → Bool) : ∀ (pre post : List Elem) (done : List Tmpl) (log : Log),
    (∀ e ∈ pre, fails e.tmpl = false) →
    walk fails (pre ++ post) (specObjs done).head? (specObjs done) log =
      walk fails post (specObjs (pre.reverse.map Elem.tmpl ++ done)).head?
        (specObjs (pre.reverse.map Elem.tmpl ++ done)) (log ++ pre.map Elem.tmpl)
  | [], post, done, log, _ => by simp
  | e :: pre, post, done, log, h => by
      have ih := walk_append fails pre post (e.tmpl :: done) (log ++ [e.tmpl])
        fun x hx => h x (by simp [hx])
      simpa [walk, h e (by simp), construct1_eq, specObjs] using ih

/-- **the result is the described pipeline**: n objects in configuration order, each one's
target the very next object, constructed with exactly the configured arguments, each exactly
once and last to first -/
theorem pipeline_chain (fails : Tmpl → Bool) (elems : List Elem) (h : ∀ e ∈ elems, fails e.tmpl = false) :
    pipeline fails elems = (some (specObjs (elems.map Elem.tmpl)), (elems.map Elem.tmpl).reverse) := by
  simpa [pipeline, walk, specObjs, List.map_reverse] using
    walk_append fails elems.reverse [] [] [] fun e he => h e (List.mem_reverse.mp he)

theorem specObjs_length (ts : List Tmpl) : (specObjs ts).length = ts.length := by
  induction ts with
  | nil => rfl
  | cons t ts ih => simp [specObjs, ih]

/-- target identity: object `i` was built from template `i` with object `i+1` as its target -/
theorem target_is_next (ts : List Tmpl) (i : Nat) (hi : i < ts.length) :
    (specObjs ts)[i]'(by rw [specObjs_length]; exact hi) =
      .built ts[i] ((specObjs ts)[i + 1]?) := by
  induction ts generalizing i with
  | nil => simp at hi
  | cons t ts ih =>
    cases i with
    | zero => simp [specObjs, List.head?_eq_getElem?]
    | succ i => exact ih i (Nat.lt_of_succ_lt_succ hi)

/-- a constructor error surfaces as an error from loading (no list is returned), after
exactly the later elements were constructed -/
theorem pipeline_error (fails : Tmpl → Bool) (before : List Elem) (e : Elem) (after : List Elem)
    (ha : ∀ x ∈ after, fails x.tmpl = false) (he : fails e.tmpl = true) :
    pipeline fails (before ++ e :: after) = (none, (after.map Elem.tmpl).reverse) := by
  simpa [pipeline, walk, he, specObjs, List.map_reverse] using
    walk_append fails after.reverse (e :: before.reverse) [] [] fun x hx => ha x (List.mem_reverse.mp hx)

theorem specObjs_concat_head (ts : List Tmpl) (tl : Tmpl) :
    (specObjs (ts ++ [tl])).head? = some (nest ts (mkLeaf tl)) := by
  induction ts with
  | nil => rfl
  | cons t ts ih => simp [specObjs, ih]

/-- for tag elements (templates) any grouping of `t1 >> … >> tn` evaluates to the head object
of the section and constructs in the section's order (link to C04) -/
theorem eval_eq_pipeline (ts : List Tmpl) (tl : Tmpl) (hts : ts ≠ []) (hh : ∀ t ∈ ts, t.leaf = false)
    (hl : tl.leaf = true) (e : Expr) (he : leaves e = ts.map Item.tmpl ++ [.tmpl tl]) :
    eval e = (specObjs (ts ++ [tl])).head?.map fun o => (.obj o, (ts ++ [tl]).reverse) := by
  rw [specObjs_concat_head, C04.chain_assoc e (ts.map Item.tmpl) (.tmpl tl) (mkLeaf tl) [tl] he
    (by simpa using hts) (List.forall_mem_map.mpr fun t ht => by simp [isHead, hh t ht]) (if_pos hl),
    tmplsOf_map_tmpl, List.reverse_append]
  rfl

/-- **the result equals the pipeline built in Python with `>>`**: for tag elements (templates)
the head object is what any grouping of `t1 >> … >> tn` evaluates to (link to C04) -/
theorem pipeline_eq_rshift (ts : List Tmpl) (tl : Tmpl) (hts : ts ≠ []) (hh : ∀ t ∈ ts, t.leaf = false)
    (hl : tl.leaf = true) (e : Expr) (he : leaves e = ts.map Item.tmpl ++ [.tmpl tl]) :
    (eval e).map (·.1) = (specObjs (ts ++ [tl])).head?.map Item.obj := by
  rw [eval_eq_pipeline ts tl hts hh hl e he, Option.map_map]
  rfl

/-! ### non-vacuity -/

def t0 : Tmpl := ⟨0, [], [("interval", ⟨1, false⟩)], false⟩
def t1 : Tmpl := ⟨1, [⟨2, false⟩], [], false⟩
def t2 : Tmpl := ⟨8, [], [], true⟩
example : (pipeline (fun _ => false) [.tag t0, .legacy t1, .tag t2]).2 = [t2, t1, t0] := by decide +kernel
example : (pipeline (fun t => t.ctor == 1) [.tag t0, .legacy t1, .tag t2]).2 = [t2] := by decide +kernel

/-! ### the walk as written in the source

`Gen.pipelineWalkShape` is re-computed from the syntax tree of
`PipelineTranslator.translate_hierarchy` on every run: only the lookup `structure["pipeline"]` is
guarded by the `except (KeyError, TypeError)` that means "not a pipeline section"; the elements
are walked last to first; the last one is translated without target and constructed if it is still
a template (`construct1 none`); every other one is bound with `>>` if it has one (`.tag`), else
translated with `target=` the previous object (`.legacy`); the result is in configuration order
(`pipeline` = `walk` over the reversed list). -/

theorem gen_pipeline_walk_shape : Gen.pipelineWalkShape = true := rfl

end Cobald.Props.C05
