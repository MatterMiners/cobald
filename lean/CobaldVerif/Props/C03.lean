/-
C03 — Every adopted payload and every service is started exactly once.
-/
import CobaldVerif.Generated.Src
import CobaldVerif.Lemmas.RuntimeInv

namespace Cobald.Props.C03
open Cobald Cobald.Runtime

/-- **never started twice**: in every reachable state every payload has been started at most
once — whatever the number of payloads, submission times, polling cycles of the service sweep -/
theorem start_le_one (s : St) (hr : Reach s) (p : Nat) : s.starts p ≤ 1 := by
  rcases (inv_reach s hr).c.starts_once p with h | h <;> omega

/-- a payload that is running, has ended or was unwound has been started exactly once; one that
is queued, waiting for the sweep, submitted or discarded has not been started -/
theorem started_iff (s : St) (hr : Reach s) (p : Nat) :
    (s.starts p = 1 ↔ (s.pay p).notStarted = false) ∧ (s.starts p = 0 ↔ (s.pay p).notStarted = true) := by
  rcases (inv_reach s hr).c.starts_once p with ⟨h1, h2⟩ | ⟨h1, h2⟩ <;> simp [h1, h2]

/-- **in the runner of the requested flavour**: a running asyncio payload runs on the event
loop thread, a running trio payload on the trio thread -/
theorem start_flavour (s : St) (hr : Reach s) (p : Nat) (h : s.pay p = .running) :
    (s.fl p = .aio → s.tid p = s.loopTid ∧ s.loopTid ≠ none) ∧
    (s.fl p = .trio → s.tid p = s.trioTid ∧ s.trioTid ≠ none) :=
  ⟨(inv_reach s hr).c.co_thread_aio p h, (inv_reach s hr).c.co_thread_trio p h⟩

/-- **adopt never fails and never waits**: in every phase of the runtime — idle, starting,
running, closing, ended — adopting a fresh payload is enabled and only registers it -/
theorem adopt_total (s : St) (p : Nat) (f : Flav) (h : s.pay p = .absent) :
    ∃ s', step s (.adopt p f) = some s' ∧ (s'.pay p = .queued ∨ s'.pay p = .submitted) ∧
      s'.starts = s.starts ∧ s'.phase = s.phase := by
  by_cases hup : s.phase = .up
  · exact ⟨_, (Step.adoptUp p f h hup).to_step, .inr (by simp), rfl, rfl⟩
  · exact ⟨_, (Step.adoptQueued p f h hup).to_step, .inl (by simp), rfl, rfl⟩

/-- **none is lost**: while the runtime is up, a payload that has been handed to its runner can
start (on the one thread of its flavour, or on a fresh thread for a thread payload), the start-up
queue can be flushed as long as it has not been, and a service that has not been adopted yet can be
swept as long as no shutdown was requested and trio is alive -/
theorem start_enabled (s : St) (p : Nat) (hup : s.phase = .up) (hp : s.pay p = .submitted) (t : Nat)
    (ht : s.tidOK (s.fl p) t = true) :
    ∃ s', step s (.start p t) = some s' ∧ s'.pay p = .running ∧ s'.starts p = s.starts p + 1 :=
  ⟨_, (Step.start p t (.inl ⟨hp, .inl hup⟩) ht).to_step, by simp, by simp⟩

theorem flush_enabled (s : St) (hup : s.phase = .up) (hf : s.flushed = false) :
    ∃ s', step s .flush = some s' ∧ ∀ p, s.pay p = .queued → s'.pay p = .submitted :=
  ⟨_, (Step.flush hup hf).to_step, fun p hp => by simp [hp]⟩

theorem sweep_enabled (s : St) (p : Nat) (hup : s.phase = .up) (hu : s.pay p = .unit) (hs : s.stopReq = false)
    (ht : s.latch .trio = .opened) : ∃ s', step s (.sweep p) = some s' ∧ s'.pay p = .submitted :=
  ⟨_, (Step.sweep p hup hu hs ht).to_step, by simp⟩

/-- the start-up queue is flushed exactly once, and flushing turns every queued payload into a
submitted one (none is lost) -/
theorem flush_all (s s' : St) (h : step s .flush = some s') :
    s.flushed = false ∧ s'.flushed = true ∧ ∀ p, s.pay p = .queued → s'.pay p = .submitted := by
  cases Step.of_step h with
  | flush _ hf => exact ⟨hf, rfl, fun p hp => by simp [hp]⟩

/-- several polling cycles do not duplicate a service: the sweep only takes units that have not
been adopted yet, and marks them -/
theorem sweep_once (s s' : St) (p : Nat) (h : step s (.sweep p) = some s') :
    s.pay p = .unit ∧ s'.pay p = .submitted ∧ step s' (.sweep p) = none := by
  cases Step.of_step h with
  | sweep _ _ hu _ _ => exact ⟨hu, by simp, by simp [step]⟩

/-- only while the runtime is shutting down may a payload be discarded instead of started -/
theorem discard_only_closing (s s' : St) (p : Nat) (h : step s (.discard p) = some s') :
    s.closing ∧ s.pay p = .submitted := by
  cases Step.of_step h with
  | discard _ hs hc => exact ⟨hc, hs⟩

/-! ### non-vacuity -/

def trace : List Ev :=
  [.adopt 1 .aio, .newUnit 2 .trio, .acceptBegin 0, .launch, .flush, .sweep 2, .start 1 0, .start 2 1, .adopt 3 .thr, .start 3 2]
example : ((run St.init trace).map (fun s => [s.starts 1, s.starts 2, s.starts 3])) = some [1, 1, 1] := by decide +kernel
example : (run St.init (trace ++ [.start 1 0])).isNone = true := by decide +kernel

/-- The functions this property's part of the model was transcribed from (registration and start of payloads
and services: the events `adopt`, `newUnit`, `flush`, `sweep`, `start` of the LTS and their guards) still
read as they did then (`Gen.pinned`; the table behind it is recomputed from the source on every run, DESIGN
§12.1). The transcription itself is trusted; a changed function breaks this theorem, and the scenario
families are then the search for a failing history. -/
theorem gen_runtime_text :
    ∀ n ∈ ["service:ServiceUnit.__init__",
     "service:ServiceUnit.units",
     "service:ServiceUnit.start",
     "service:service",
     "service:ServiceRunner.adopt",
     "service:ServiceRunner._adopt_services",
     "service:ServiceRunner._accept_services",
     "meta_runner:MetaRunner.register_payload",
     "meta_runner:MetaRunner._unqueue_payloads",
     "base_runner:BaseRunner.register_payload",
     "asyncio_runner:AsyncioRunner.register_payload",
     "asyncio_runner:AsyncioRunner._setup_payload",
     "trio_runner:TrioRunner.register_payload",
     "trio_runner:TrioRunner._submit_payload",
     "thread_runner:ThreadRunner.register_payload"],
      Gen.pinned n = true := by decide +kernel

end Cobald.Props.C03
