/-
C08 — Controllers move demand only in the documented direction and amount.
-/
import CobaldVerif.Lemmas.Controllers
import CobaldVerif.Generated.Src
import CobaldVerif.Generated.SrcControllers
import Mathlib.Tactic.Ring
import Mathlib.Algebra.Order.Group.Abs

namespace Cobald.Props.C08
open Cobald Cobald.Controllers

def delta (c : Linear) (i : Rat) (p : Pool) : Rat := (linearStep c i p).demand - p.demand

/-- what a step does to demand, case by case; the statements about `delta` below read it off -/
theorem delta_eq (c : Linear) (i : Rat) (p : Pool) :
    delta c i p =
      if p.util < c.low then -(c.rate * i) else if c.high < p.alloc then c.rate * i else 0 := by
  unfold delta
  rw [linearStep_demand]
  split_ifs <;> ring

/-- a step changes demand by at most rate × interval -/
theorem linear_bound (c : Linear) (i : Rat) (p : Pool) (hc : c.ok) (hi : 0 ≤ i) :
    |delta c i p| ≤ c.rate * i := by
  have h : 0 ≤ c.rate * i := mul_nonneg hc.1.le hi
  rw [delta_eq]
  split_ifs <;> simp [abs_of_nonneg h, h]

/-- downwards only (and then exactly) if utilisation is below low_utilisation -/
theorem linear_down_iff (c : Linear) (i : Rat) (p : Pool) (hc : c.ok) (hi : 0 < i) :
    delta c i p < 0 ↔ p.util < c.low := by
  have h : 0 < c.rate * i := mul_pos hc.1 hi
  rw [delta_eq]
  split_ifs with h1 <;> simp [h1, h, h.le]

/-- upwards only if allocation is above high_allocation -/
theorem linear_up_only (c : Linear) (i : Rat) (p : Pool) (hc : c.ok) (hi : 0 ≤ i) :
    0 < delta c i p → c.high < p.alloc := by
  have h : 0 ≤ c.rate * i := mul_nonneg hc.1.le hi
  rw [delta_eq]
  split_ifs with h1 h2
  · simp [h]
  · exact fun _ => h2
  · simp

/-- by exactly rate × interval when exactly one of the two conditions holds -/
theorem linear_exact (c : Linear) (i : Rat) (p : Pool) :
    (p.util < c.low ∧ ¬ c.high < p.alloc → delta c i p = -(c.rate * i)) ∧
    (¬ p.util < c.low ∧ c.high < p.alloc → delta c i p = c.rate * i) := by
  rw [delta_eq]
  exact ⟨fun h => if_pos h.1, fun h => by rw [if_neg h.1, if_pos h.2]⟩

/-- not at all when neither holds -/
theorem linear_none (c : Linear) (i : Rat) (p : Pool) (h1 : ¬ p.util < c.low) (h2 : ¬ c.high < p.alloc) :
    linearStep c i p = p := by
  simp [linearStep, h1, h2]

/-- nothing but demand is touched -/
theorem linear_frame (c : Linear) (i : Rat) (p : Pool) :
    (linearStep c i p).supply = p.supply ∧ (linearStep c i p).util = p.util ∧
    (linearStep c i p).alloc = p.alloc := by
  unfold linearStep; split_ifs <;> exact ⟨rfl, rfl, rfl⟩

/-- any sequence of steps, with arbitrary changes of supply/utilisation/allocation in between:
after `n` steps demand has moved by at most n × rate × interval -/
theorem linear_n_steps (c : Linear) (i : Rat) (hc : c.ok) (hi : 0 ≤ i)
    (envs : List (Pool → Pool)) (henv : ∀ e ∈ envs, ∀ p, (e p).demand = p.demand) (p : Pool) :
    |(envs.foldl (fun q e => linearStep c i (e q)) p).demand - p.demand| ≤ envs.length * (c.rate * i) := by
  induction envs generalizing p with
  | nil => simp
  | cons e es ih =>
    obtain ⟨he, hes⟩ := List.forall_mem_cons.mp henv
    have h := linear_bound c i (e p) hc hi
    rw [delta, he p] at h
    rw [List.foldl_cons, List.length_cons, Nat.cast_succ, add_one_mul]
    exact (abs_sub_le _ (linearStep c i (e p)).demand _).trans (add_le_add (ih hes _) h)

theorem relsupply_cases (c : RelSupply) (p : Pool) :
    (p.util < c.low → (relStep c p).demand = p.supply * c.lowScale) ∧
    (¬ p.util < c.low → c.high < p.alloc → (relStep c p).demand = p.supply * c.highScale) ∧
    (¬ p.util < c.low → ¬ c.high < p.alloc → (relStep c p).demand = p.supply) := by
  rw [relStep_demand]
  exact ⟨fun h => if_pos h, fun h1 h2 => by rw [if_neg h1, if_pos h2],
    fun h1 h2 => by rw [if_neg h1, if_neg h2]⟩

/-- the step is delegated to the controller with the greatest demand threshold not above the
current demand … -/
theorem switch_select (dflt : CtlId) (slaves : List (Rat × CtlId)) (hnd : (slaves.map (·.1)).Nodup)
    (demand : Rat) (t : Rat) (c : CtlId) (hm : (t, c) ∈ slaves) (ht : t ≤ demand)
    (hmax : ∀ y ∈ slaves, y.1 ≤ demand → y.1 ≤ t) :
    switchSelect dflt (sortRules slaves) demand = c :=
  select_greatest dflt _ demand (strict_sortRules slaves hnd) t c ((mem_sortRules _ _).mpr hm) ht
    (fun y hy => hmax y ((mem_sortRules _ _).mp hy))

/-- … else to the default -/
theorem switch_default (dflt : CtlId) (slaves : List (Rat × CtlId)) (demand : Rat)
    (hnone : ∀ y ∈ slaves, demand < y.1) : switchSelect dflt (sortRules slaves) demand = dflt :=
  select_none dflt _ demand (fun y hy => hnone y ((mem_sortRules _ _).mp hy))

/-- exactly one controller acts, on the switch's own target -/
theorem switch_once (dflt : CtlId) (slaves : List (Rat × CtlId)) (act : CtlId → Rat → Pool → Pool)
    (i : Rat) (p : Pool) :
    switchStep dflt slaves act i p =
      (act (switchSelect dflt (sortRules slaves) p.demand) i p, switchSelect dflt (sortRules slaves) p.demand) := rfl

/-! ### Stepwise

The lookup in a compiled table is the selection of DemandSwitch (`getRule_compile`). -/

/-- the lookup finds the rule with the greatest supply threshold not above the current supply,
whatever the declaration order of the rules -/
theorem getRule_greatest (base : RuleId) (rules : List (Rat × RuleId)) (l : Lookup)
    (hc : compile base rules = some l) (hnd : (rules.map (·.1)).Nodup) (s : Rat) (hs : 0 ≤ s)
    (t : Rat) (r : RuleId) (hm : (t, r) ∈ rules) (hts : t ≤ s)
    (hmax : ∀ y ∈ rules, y.1 ≤ s → y.1 ≤ t) : getRule l s = some r := by
  rw [getRule_compile hc s hs, switch_select base rules hnd s t r hm hts hmax]

/-- … else the base rule (`hnd` is not needed: that the table compiles is enough) -/
theorem getRule_base (base : RuleId) (rules : List (Rat × RuleId)) (l : Lookup)
    (hc : compile base rules = some l) (hnd : (rules.map (·.1)).Nodup) (s : Rat) (hs : 0 ≤ s)
    (hnone : ∀ y ∈ rules, s < y.1) : getRule l s = some base := by
  rw [getRule_compile hc s hs, switch_default base rules s hnone]

/-- a negative supply finds no rule at all (the real code then raises) -/
theorem getRule_neg (base : RuleId) (l : Lookup) (hc : compile base [] = some l) (s : Rat) (hs : s < 0) :
    getRule l s = none := by
  rw [compile_eq_some hc]
  simp [sortRules, mkRanges, getRule, not_le.mpr hs]

/-- exactly one rule is applied per step; `None` leaves demand untouched -/
theorem stepwise_once (l : Lookup) (rule : RuleId → Pool → Rat → Option Rat) (i : Rat) (p p' : Pool)
    (r : RuleId) (h : stepwiseStep l rule i p = some (p', r)) :
    getRule l p.supply = some r ∧
    (rule r p i = none → p' = p) ∧ (∀ d, rule r p i = some d → p' = { p with demand := d }) := by
  unfold stepwiseStep at h
  cases hr : getRule l p.supply with
  | none => simp [hr] at h
  | some r0 =>
    cases hd : rule r0 p i
    all_goals
      simp only [hr, hd, Option.some.injEq, Prod.mk.injEq] at h
      obtain ⟨rfl, rfl⟩ := h
      simp [hd]

/-! ### non-vacuity -/

example : compile 0 [(10, 1), (5/2, 2), (100, 3)] = some [(0, some (5/2), 0), (5/2, some 10, 2), (10, some 100, 1), (100, none, 3)] := by
  decide +kernel
example : getRule [(0, some (5/2), 0), (5/2, some 10, 2), (10, some 100, 1), (100, none, 3)] 10 = some 1 := by
  decide +kernel
example : ([(10, 1), (5/2, 2), (100, 3)] : List (Rat × Nat)).map (·.1) |>.Nodup := by decide +kernel
example : delta ⟨1/2, 1/2, 3⟩ 2 ⟨10, 7, 1/4, 1⟩ = -6 := by decide +kernel
example : (⟨1/2, 1/2, 3⟩ : Linear).ok := by decide +kernel

/-! ### the source's `regulate` methods

`Generated/Src.lean` is re-emitted from the text of `controller/linear.py` and
`controller/relative_supply.py` on every run. -/

/-- `LinearController.regulate` as written in the source is the model's `linearStep` -/
theorem gen_linear_eq (c : Linear) (interval : Rat) (p : Pool) :
    Gen.linearRegulate p.util p.alloc p.demand c.low c.high c.rate interval = (linearStep c interval p).demand ∧
    (linearStep c interval p).supply = p.supply ∧ (linearStep c interval p).util = p.util ∧
    (linearStep c interval p).alloc = p.alloc :=
  ⟨(linearStep_demand c interval p).symm, linear_frame c interval p⟩

/-- `RelativeSupplyController.regulate` as written in the source is the model's `relStep` -/
theorem gen_relsupply_eq (c : RelSupply) (p : Pool) :
    Gen.relSupplyRegulate p.util p.alloc p.supply p.demand c.low c.high c.lowScale c.highScale = (relStep c p).demand :=
  (relStep_demand c p).symm

/-! ### the source's selection loops (`Generated/SrcControllers.lean`, from `controller/switch.py`
and `controller/stepwise.py`) -/

/-- `DemandSwitch.regulate` as written in the source selects the model's controller -/
theorem gen_switch_select_eq (dflt : CtlId) (sorted : List (Rat × CtlId)) (demand : Rat) :
    Gen.Controllers.switchSelect dflt sorted demand = switchSelect dflt sorted demand := rfl

/-- `RangeSelector.get_rule` as written in the source is the model's `getRule` -/
theorem gen_get_rule_eq (l : Lookup) (s : Rat) : Gen.Controllers.getRule l s = getRule l s := by
  induction l with
  | nil => rfl
  | cons x rest ih =>
    obtain ⟨low, high, r⟩ := x
    simp only [Gen.Controllers.getRule, getRule, ih]

/-- `_compile_lookup` starts the ranges at the model's first lower bound, and the constructor / `run`
have the modelled shape (slaves sorted, everyone bound to the switch's target; one lookup, one rule
call, one conditional write per period) -/
theorem gen_shapes :
    (∀ base rules, compile base rules =
      (let l := mkRanges Gen.Controllers.compileFirstLow base (sortRules rules); if rangesOk l then some l else none)) ∧
    Gen.Controllers.switchCtorShape = true ∧ Gen.Controllers.stepwiseRunShape = true :=
  ⟨fun _ _ => rfl, rfl, rfl⟩
end Cobald.Props.C08
