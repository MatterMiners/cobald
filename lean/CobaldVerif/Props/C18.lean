/-
C18 — YAML loading never instantiates anything that is not a registered plugin.
General theorems about the dispatch model, then theorems about the *regenerated* table of the
loader class that `cobald.daemon.core.config.load` uses (Generated/Tables.lean).
-/
import CobaldVerif.Lemmas.YamlSafe
import CobaldVerif.Generated.Src
import CobaldVerif.Generated.Tables

namespace Cobald.Props.C18
open Cobald Cobald.YamlSafe Cobald.Generated

/-- a tag that dispatches to `construct_undefined`, anywhere in the document, makes loading fail -/
theorem undefined_rejected (L : Loader) : ∀ (n : Node) (t : Tag), t ∈ tags n →
    dispatch L t = some .undefined → construct L n = none
  | n, t, ht, hd => construct_eq L n ▸ dispatchAll_eq_none L _ t ht hd

theorem undefined_rejected_list (L : Loader) : ∀ (ns : List Node) (t : Tag), t ∈ tagsList ns →
    dispatch L t = some .undefined → constructList L ns = none
  | ns, t, ht, hd => constructList_eq L ns ▸ dispatchAll_eq_none L _ t ht hd

theorem undefined_rejected_pairs (L : Loader) : ∀ (ps : List (Node × Node)) (t : Tag), t ∈ tagsPairs ps →
    dispatch L t = some .undefined → constructPairs L ps = none
  | ps, t, ht, hd => constructPairs_eq L ps ▸ dispatchAll_eq_none L _ t ht hd

/-- only constructors of the loader's tables ever run, and never `construct_undefined` -/
theorem calls_registered (L : Loader) : ∀ (n : Node) (log : List Call), construct L n = some log →
    ∀ c ∈ log, dispatch L c.tag = some c.kind ∧ c.kind ≠ .undefined
  | n, log, h, c, hc => (dispatchAll_eq_some L _ log (construct_eq L n ▸ h) c hc).2

theorem calls_registered_list (L : Loader) : ∀ (ns : List Node) (log : List Call), constructList L ns = some log →
    ∀ c ∈ log, dispatch L c.tag = some c.kind ∧ c.kind ≠ .undefined
  | ns, log, h, c, hc => (dispatchAll_eq_some L _ log (constructList_eq L ns ▸ h) c hc).2

theorem calls_registered_pairs (L : Loader) : ∀ (ps : List (Node × Node)) (log : List Call),
    constructPairs L ps = some log → ∀ c ∈ log, dispatch L c.tag = some c.kind ∧ c.kind ≠ .undefined
  | ps, log, h, c, hc => (dispatchAll_eq_some L _ log (constructPairs_eq L ps ▸ h) c hc).2

def stdTags : List Tag :=
  ["null", "bool", "int", "float", "binary", "timestamp", "omap", "pairs", "set", "str", "seq", "map"].map
    (fun s => "tag:yaml.org,2002:".toList ++ s.toList)

/-- **the table is safe**: no `python/*` tag is registered, there are no prefix (multi)
constructors, unknown tags fall through to `construct_undefined`, every entry is either a
standard SafeConstructor method for a standard tag or a plugin constructor registered under
`!` + an entry-point name of the plugin group -/
theorem table_safe :
    (cobaldLoader.table.all (fun e => !isPythonTag e.1) = true) ∧
    cobaldLoader.multi = [] ∧ cobaldLoader.multiFallback = none ∧
    cobaldLoader.fallback = some .undefined ∧
    (cobaldLoader.table.all (fun e =>
      (e.2 == .std && stdTags.contains e.1) ||
      (e.2 == .plugin && pluginNames.any (fun n => '!' :: n == e.1))) = true) := by
  decide +kernel

/-- a tag that is not registered falls through to `construct_undefined` -/
theorem unregistered_undefined (t : Tag) (h : lookup t cobaldLoader.table = none) :
    dispatch cobaldLoader t = some .undefined := by
  obtain ⟨_, h2, h3, h4, _⟩ := table_safe
  simp [dispatch, h, h2, h3, h4]

/-- **any document that uses a `python/*` tag anywhere is rejected** (and by
`calls_registered` nothing but registered constructors ever ran) -/
theorem python_tag_rejected (doc : Node) (t : Tag) (ht : t ∈ tags doc) (hp : isPythonTag t = true) :
    construct cobaldLoader doc = none := by
  apply undefined_rejected cobaldLoader doc t ht
  apply unregistered_undefined
  exact lookup_none_of_all (fun x => !isPythonTag x) t (by simp [hp]) _ table_safe.1

/-- … and so is any document that uses an unregistered `!tag` -/
theorem unregistered_tag_rejected (doc : Node) (t : Tag) (ht : t ∈ tags doc)
    (hu : lookup t cobaldLoader.table = none) : construct cobaldLoader doc = none :=
  undefined_rejected cobaldLoader doc t ht (unregistered_undefined t hu)

def pyName : Tag := "tag:yaml.org,2002:python/name:os.system".toList
def strTag : Tag := "tag:yaml.org,2002:str".toList
def mapTag : Tag := "tag:yaml.org,2002:map".toList
def exDoc : Node := .map mapTag [(.scalar strTag, .seq ("!LinearController".toList) [.scalar pyName])]
example : construct cobaldLoader exDoc = none := by decide +kernel
example : (construct cobaldLoader (.map mapTag [(.scalar strTag, .map ("!LinearController".toList) [])])).isSome = true := by
  decide +kernel

/-! ### the source text the model was transcribed from

`cobald/daemon/config/yaml.py` and the tag settings of `plugins.py`: what a registered tag's constructor does with its node, and that the document is loaded with the loader class whose tables are regenerated.
`Gen.runtimePins` (recomputed on every run) says for each of these functions whether its normalised
text is still the text of `harness/vh/pins.json`; a changed function breaks this theorem and the
correspondence streams are then the search for a failing input. -/

theorem gen_source_text :
    ∀ n ∈ ["yaml:yaml_constructor",
     "yaml:load_configuration",
     "plugins:yaml_tag",
     "plugins:YAMLTagSettings.fetch",
     "plugins:YAMLTagSettings.mark"],
      Gen.pinned n = true := by decide +kernel

end Cobald.Props.C18
