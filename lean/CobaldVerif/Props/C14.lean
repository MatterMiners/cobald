/-
C14 — Config sections are validated, then digested once each in constraint order.
-/
import CobaldVerif.Lemmas.Sections
import CobaldVerif.Lemmas.SectionsGen
import Batteries.Data.List.Perm

namespace Cobald.Props.C14
open Cobald Cobald.Sections

/-- **soundness of the ordering**: every section appears exactly once in the layers, and a
section that another one depends on sits in a strictly earlier layer — hence before it in every
order the library may choose inside the layers -/
theorem toposort_sound (d : Deps) (layers : List (List String)) (hnd : (keys d).Nodup)
    (h : toposort d = some layers) :
    layers.flatten.Perm (keys (normalise d)) ∧
    ∀ x dx, (x, dx) ∈ d → ∀ y ∈ dx, y ≠ x → LayerBefore y x layers := by
  obtain ⟨hperm, hbefore⟩ := peel_sound (nodup_keys_normalise hnd) h
  exact ⟨hperm, fun x dx hx y hy hne => hbefore x y (has_normalise.mpr ⟨⟨dx, hx, hy⟩, hne⟩)⟩

/-- **completeness of the ordering**: an acyclic table is always ordered - `toposort` (and hence
`load_section_plugins`) raises its circular-dependency error only when there is a cycle. Acyclic:
some rank strictly decreases along every dependency on another key -/
theorem toposort_complete (d : Deps) (rank : String → Nat)
    (hacyc : ∀ kd ∈ d, ∀ y ∈ kd.2, y ≠ kd.1 → rank y < rank kd.1) : (toposort d).isSome = true := by
  refine peel_complete (rank := rank) (Nat.le_succ _) fun k y h => ?_
  obtain ⟨⟨ds, hm, hy⟩, hne⟩ := has_normalise.mp h
  exact ⟨hacyc _ hm y hy hne, mem_keys_normalise.mpr (.inr ⟨k, ⟨ds, hm, hy⟩, hne⟩)⟩

/-- the layers found for a table `T` put the plugins in constraint order as soon as `T` has the installed names
as keys and at least the dependencies of the model's table: so for the model's own table, and for the one the
loops of the source build (`gen_dependencies_equiv`) -/
theorem respects_of_table {T : Deps} {ps : List Plugin} (hk : T.map (·.1) = (dependencies ps).map (·.1))
    (hT : ∀ k x, Has (dependencies ps) k x → Has T k x)
    (hnd : (ps.map (·.name)).Nodup) {layers : List (List String)} (h : toposort T = some layers)
    {p q : Plugin} (hp : p ∈ ps) (hq : q ∈ ps) (hne : p.name ≠ q.name) :
    (q.name ∈ p.after → LayerBefore q.name p.name layers) ∧
    (q.name ∈ p.before → LayerBefore p.name q.name layers) := by
  have hkeys : keys T = ps.map (·.name) := hk.trans (keys_dependencies ps)
  have hs := (toposort_sound T layers (hkeys ▸ hnd) h).2
  have key : ∀ k x, Has (dependencies ps) k x → x ≠ k → LayerBefore x k layers := fun k x hkx hne => by
    obtain ⟨ds, hm, hx⟩ := hT k x hkx
    exact hs k ds hm x hx hne
  exact ⟨fun ha => key _ _ ((has_dependencies ps).mpr (.inl ⟨p, hp, rfl, ha, List.mem_map_of_mem hq⟩)) hne.symm,
    fun hb => key _ _ ((has_dependencies ps).mpr (.inr ⟨List.mem_map_of_mem hq, p, hp, hb, rfl⟩)) hne⟩

/-- ... and layers are found for `T` as soon as the constraints between installed plugins are acyclic and `T` has
at most the dependencies of the model's table -/
theorem exists_of_table {T : Deps} {ps : List Plugin} (hT : ∀ k x, Has T k x → Has (dependencies ps) k x)
    (rank : String → Nat)
    (hafter : ∀ p ∈ ps, ∀ a ∈ p.after, a ∈ ps.map (·.name) → a ≠ p.name → rank a < rank p.name)
    (hbefore : ∀ p ∈ ps, ∀ q ∈ ps, p.name ∈ q.before → q.name ≠ p.name → rank q.name < rank p.name) :
    (toposort T).isSome = true := by
  refine toposort_complete T rank ?_
  rintro ⟨k, ds⟩ hm y hy hne
  rcases (has_dependencies ps).mp (hT k y ⟨ds, hm, hy⟩) with ⟨p, hp, rfl, ha, hn⟩ | ⟨hk, q, hq, hb, rfl⟩
  · exact hafter p hp y ha hn hne
  · obtain ⟨p, hp, rfl⟩ := List.mem_map.mp hk
    exact hbefore p hp q hq hb hne

/-- the order of calls satisfies every `after` and `before` constraint between installed plugins -/
theorem order_respects (ps : List Plugin) (hnd : (ps.map (·.name)).Nodup) (layers : List (List String))
    (h : toposort (dependencies ps) = some layers) (p q : Plugin) (hp : p ∈ ps) (hq : q ∈ ps)
    (hne : p.name ≠ q.name) :
    (q.name ∈ p.after → LayerBefore q.name p.name layers) ∧
    (q.name ∈ p.before → LayerBefore p.name q.name layers) :=
  respects_of_table rfl (fun _ _ => id) hnd h hp hq hne

/-- for section plugins: if the before/after constraints between installed plugins are acyclic
(a rank exists that every constraint respects), the plugins are ordered - no spurious failure -/
theorem order_exists (ps : List Plugin) (rank : String → Nat)
    (hafter : ∀ p ∈ ps, ∀ a ∈ p.after, a ∈ ps.map (·.name) → a ≠ p.name → rank a < rank p.name)
    (hbefore : ∀ p ∈ ps, ∀ q ∈ ps, p.name ∈ q.before → q.name ≠ p.name → rank q.name < rank p.name) :
    (pluginLayers ps).isSome = true := by
  rw [pluginLayers, Option.isSome_map]
  exact exists_of_table (fun _ _ => id) rank hafter hbefore

/-- constraints naming plugins that are not installed never enter the table -/
theorem absent_ignored (ps : List Plugin) (x : String) (dx : List String)
    (h : (x, dx) ∈ dependencies ps) : ∀ y ∈ dx, y ∈ ps.map (·.name) := by
  intro y hy
  rcases (has_dependencies ps).mp ⟨dx, h, hy⟩ with ⟨_, _, _, _, hn⟩ | ⟨_, q, hq, _, rfl⟩
  · exact hn
  · exact List.mem_map_of_mem hq

/-- a "strictly earlier layer" means earlier in *every* flattening that permutes inside layers -/
theorem layerBefore_any_order (y x : String) (layers : List (List String)) (h : LayerBefore y x layers) :
    ∀ (perms : List (List String)), List.Forall₂ List.Perm perms layers →
      ∃ a b c, perms.flatten = a ++ y :: b ++ x :: c := by
  induction h with
  | here l rest hy hx =>
    rintro _ (_ | ⟨hpl, hrest⟩)
    obtain ⟨a, b, rfl⟩ := List.append_of_mem (hpl.mem_iff.mpr hy)
    obtain ⟨c, e, he⟩ := List.append_of_mem ((List.Perm.flatten_congr hrest).mem_iff.mpr hx)
    exact ⟨a, b ++ c, e, by simp [he]⟩
  | there l rest _ ih =>
    rintro (_ | ⟨pl, perms⟩) (_ | ⟨-, hrest⟩)
    obtain ⟨a, b, c, he⟩ := ih _ hrest
    exact ⟨pl ++ a, b, c, by simp [he]⟩

/-- an unclaimed section (other than `logging`) fails the load before any plugin has run -/
theorem unknown_section_first (order : List Plugin) (cfg : List String) (returns : String → Bool)
    (k : String) (hk : k ∈ cfg) (hlog : k ≠ "logging") (hun : ∀ p ∈ order, p.name ≠ k) :
    loadConfiguration order cfg returns = (.unknownSections, []) := by
  rw [loadConfiguration, if_pos]
  exact any_unclaimed.mpr ⟨k, List.mem_filter.mpr ⟨hk, decide_eq_true hlog⟩, hun⟩

/-- when every section is claimed and no required one is missing, loading calls the plugins whose section is
present, once each and in `order`, and keeps the sections whose digest returned something -/
theorem digest_log (order : List Plugin) (cfg : List String) (returns : String → Bool)
    (hknown : ∀ k ∈ cfg, k ≠ "logging" → ∃ p ∈ order, p.name = k)
    (hreq : ∀ p ∈ order, p.required = true → p.name ∈ cfg ∧ p.name ≠ "logging") :
    loadConfiguration order cfg returns =
      (.loaded (((order.filter (fun p => p.name ∈ cfg.filter (· ≠ "logging"))).map (·.name)).filter returns),
       (order.filter (fun p => p.name ∈ cfg.filter (· ≠ "logging"))).map (·.name)) := by
  rw [loadConfiguration, if_neg, digestLoop_spec, List.nil_append, List.nil_append]
  · exact fun p hp hr => List.mem_filter.mpr ⟨(hreq p hp hr).1, decide_eq_true (hreq p hp hr).2⟩
  · rintro h
    obtain ⟨k, hk, hun⟩ := any_unclaimed.mp h
    obtain ⟨p, hp, rfl⟩ := hknown k (List.mem_filter.mp hk).1 (of_decide_eq_true (List.mem_filter.mp hk).2)
    exact hun p hp rfl

/-- a required plugin whose section is missing makes loading fail -/
theorem required_missing (cfg : List String) (returns : String → Bool) :
    ∀ (order : List Plugin) (log kept : List String) (p : Plugin), p ∈ order → p.required = true →
      p.name ∉ cfg → ∃ s log', digestLoop cfg returns order log kept = (.missingRequired s, log') := by
  intro order log kept p hp hr hn
  -- while `q`, at the head, is called or skipped it is not `p`, so `p` is still to come
  fun_induction digestLoop cfg returns order log kept with
  | case1 => nomatch hp
  | case2 q rest log kept hq ih => exact ih ((List.mem_cons.mp hp).resolve_left fun h => hn (h ▸ hq))
  | case3 q rest log kept hq hqr => exact ⟨_, _, rfl⟩
  | case4 q rest log kept hq hqr ih => exact ih ((List.mem_cons.mp hp).resolve_left fun h => hqr (h ▸ hr))

def exPs : List Plugin :=
  [⟨"c", false, [], ["a", "zz"]⟩, ⟨"a", true, ["b", "zz"], []⟩, ⟨"b", false, [], []⟩]

example : toposort (dependencies exPs) = some [["a"], ["c", "b"]] := by decide +kernel
example : (exPs.map (·.name)).Nodup := by decide +kernel
-- the premises of `order_exists` hold for these plugins with the rank a < b, c
def exRank (n : String) : Nat := if n = "a" then 0 else 1
example : (∀ p ∈ exPs, ∀ a ∈ p.after, a ∈ exPs.map (·.name) → a ≠ p.name → exRank a < exRank p.name) ∧
    (∀ p ∈ exPs, ∀ q ∈ exPs, p.name ∈ q.before → q.name ≠ p.name → exRank q.name < exRank p.name) := by
  decide +kernel

/-! ### the source's loops (`Generated/SrcSections.lean`, regenerated on every run from
`core/config.py load_section_plugins` and `config/mapping.py load_configuration`) -/

/-- **the table the source builds is the model's table**: same keys in the same order, and for every key the
same set of dependencies -/
theorem gen_dependencies_equiv (ps : List Plugin) :
    (Gen.Sections.dependencies ps).map (·.1) = (dependencies ps).map (·.1) ∧
    ∀ k x, Has (Gen.Sections.dependencies ps) k x ↔ Has (dependencies ps) k x := by
  -- the inner loop adds `plugin` under every installed `before`, the outer loop does so for every `plugin`
  obtain ⟨hk, hh⟩ : Adds _ _ (Gen.Sections.dependencies ps) :=
    foldl_adds (fun d q => foldl_adds (fun d b => guarded_addDep_adds (ps.map (·.name))) q.before d) ps _
  rw [keys_map] at hk hh
  refine ⟨hk.trans (keys_dependencies ps).symm, fun k x => ?_⟩
  rw [hh, has_dependencies, has_map]
  refine or_congr ?_ ⟨?_, ?_⟩
  · simp only [List.mem_filter, decide_eq_true_eq]
  · rintro ⟨⟨q, hq, b, hb, -, rfl, rfl⟩, hk⟩
    exact ⟨hk, q, hq, hb, rfl⟩
  · rintro ⟨hk, q, hq, hb, rfl⟩
    exact ⟨⟨q, hq, k, hb, hk, rfl, rfl⟩, hk⟩

/-- the digest loop of `load_configuration` as written in the source is the model's -/
theorem gen_digest_eq (cfg : List String) (returns : String → Bool) : ∀ (order : List Plugin) (log kept : List String),
    Gen.Sections.digestLoop cfg returns order log kept = digestLoop cfg returns order log kept := by
  intro order
  induction order with
  | nil => intros; rfl
  | cons p rest ih => intro log kept; simp only [Gen.Sections.digestLoop, digestLoop, ih]

/-- `load_configuration` as written in the source: the one built-in section is taken out first, any other
section without a plugin ends loading before a plugin is called, then the digest loop runs -/
theorem gen_load_eq (order : List Plugin) (cfg : List String) (returns : String → Bool) :
    loadConfiguration order cfg returns =
      (let cfg' := cfg.filter (· ≠ Gen.Sections.builtinSection)
       if Gen.Sections.unknownCheck order cfg' then (.unknownSections, [])
       else Gen.Sections.digestLoop cfg' returns order [] []) := by
  unfold loadConfiguration Gen.Sections.unknownCheck Gen.Sections.builtinSection
  simp only [gen_digest_eq]

/-- **end to end for the source's loops**: whatever layers `toposort` finds for the table that the two loops of
`load_section_plugins` build, they put every installed plugin after the installed plugins it names in `after` and
before those it names in `before` -/
theorem gen_order_respects (ps : List Plugin) (hnd : (ps.map (·.name)).Nodup) (layers : List (List String))
    (h : toposort (Gen.Sections.dependencies ps) = some layers) (p q : Plugin) (hp : p ∈ ps) (hq : q ∈ ps)
    (hne : p.name ≠ q.name) :
    (q.name ∈ p.after → LayerBefore q.name p.name layers) ∧
    (q.name ∈ p.before → LayerBefore p.name q.name layers) :=
  respects_of_table (gen_dependencies_equiv ps).1 (fun k x => ((gen_dependencies_equiv ps).2 k x).mpr) hnd h hp hq hne

/-- ... and if the constraints between installed plugins are acyclic, `toposort` does find layers for the table the
loops build: no spurious circular-dependency error -/
theorem gen_order_exists (ps : List Plugin) (rank : String → Nat)
    (hafter : ∀ p ∈ ps, ∀ a ∈ p.after, a ∈ ps.map (·.name) → a ≠ p.name → rank a < rank p.name)
    (hbefore : ∀ p ∈ ps, ∀ q ∈ ps, p.name ∈ q.before → q.name ≠ p.name → rank q.name < rank p.name) :
    (toposort (Gen.Sections.dependencies ps)).isSome = true :=
  exists_of_table (fun k x => ((gen_dependencies_equiv ps).2 k x).mp) rank hafter hbefore

end Cobald.Props.C14
