/-
C19 — Nested `__type__` mappings translate bottom-up with exact error locations.
All theorems are for every finite tree and every environment (`resolve`, `apply` arbitrary).
-/
import CobaldVerif.Model.Translate
import CobaldVerif.Generated.Src

namespace Cobald.Props.C19
open Cobald Cobald.Translate

/-! ### plain data is left unchanged -/

mutual
def noType : Cfg → Bool
  | .scalar _ => true
  | .list l => noTypeItems l
  | .map m => !hasType m && noTypeEntries m
def noTypeItems : List Cfg → Bool
  | [] => true
  | c :: cs => noType c && noTypeItems cs
def noTypeEntries : List (String × Cfg) → Bool
  | [] => true
  | (_, c) :: rest => noType c && noTypeEntries rest
end

mutual
theorem plain_identity (env : Env) : ∀ (c : Cfg) (w : Path) (log : Log), noType c = true →
    tr env c w log = .ok (embed c, log)
  | .scalar s, w, log, _ => rfl
  | .list l, w, log, h => by
      rw [tr, plain_items env l w 0 log h, embed]
  | .map m, w, log, h => by
      have h : hasType m = false ∧ noTypeEntries m = true := by simpa [noType] using h
      simp [tr, embed, plain_entries env m w log h.2, h.1]
theorem plain_items (env : Env) : ∀ (l : List Cfg) (w : Path) (i : Nat) (log : Log), noTypeItems l = true →
    trItems env l w i log = .ok (embedItems l, log)
  | [], w, i, log, _ => rfl
  | c :: cs, w, i, log, h => by
      have h : noType c = true ∧ noTypeItems cs = true := by simpa [noTypeItems] using h
      rw [trItems, plain_items env cs w (i + 1) log h.2]
      simp only [plain_identity env c _ log h.1, embedItems]
theorem plain_entries (env : Env) : ∀ (m : List (String × Cfg)) (w : Path) (log : Log), noTypeEntries m = true →
    trEntries env m w log = .ok (embedEntries m, log)
  | [], w, log, _ => rfl
  | (k, c) :: rest, w, log, h => by
      have h : noType c = true ∧ noTypeEntries rest = true := by simpa [noTypeEntries] using h
      rw [trEntries, plain_identity env c _ log h.1]
      simp only [plain_entries env rest w log h.2, embedEntries]
end

/-! ### the call log follows the documented order; errors carry the exact location -/

def paths (log : Log) : List Path := log.map (·.path)

/-- what a run from `log` over the `__type__` positions `ps` must look like -/
def Good {α : Type} (log : Log) (ps : List Path) : Res α → Prop
  | .ok (_, log') => paths log' = paths log ++ ps
  | .error (p, log') => ∃ pre post, ps = pre ++ p :: post ∧ paths log' = paths log ++ pre

theorem good_pure {α : Type} (log : Log) (v : α) : Good log [] (.ok (v, log) : Res α) :=
  (List.append_nil _).symm

theorem good_fail {α : Type} (log : Log) (w : Path) (ps : List Path) :
    Good log (w :: ps) (.error (w, log) : Res α) :=
  ⟨[], ps, rfl, (List.append_nil _).symm⟩

/-- a failure in the first part of a run is a failure of the whole run -/
theorem good_of_error {α β : Type} {log : Log} {p1 : List Path} {e : Path × Log}
    (h : Good log p1 (.error e : Res α)) (p2 : List Path) :
    Good log (p1 ++ p2) (.error e : Res β) := by
  obtain ⟨pre, post, rfl, hl⟩ := h
  exact ⟨pre, post ++ p2, by simp, hl⟩

/-- a run continued from the log a successful run ended with -/
theorem good_append {α β : Type} {log log1 : Log} {p1 p2 : List Path} {v : α} {r : Res β}
    (h1 : Good log p1 (.ok (v, log1) : Res α)) (h2 : Good log1 p2 r) : Good log (p1 ++ p2) r := by
  have h1 : paths log1 = paths log ++ p1 := h1
  rcases r with ⟨p, l⟩ | ⟨v, l⟩
  · obtain ⟨pre, post, rfl, hl⟩ := h2
    exact ⟨p1 ++ pre, post, by simp, by rw [hl, h1, List.append_assoc]⟩
  · exact (h2.trans (by rw [h1, List.append_assoc]) : paths l = _)

theorem construct_good (env : Env) (w : Path) (vs : List (String × Val)) (log : Log) :
    Good log [w] (construct env w vs log) := by
  unfold construct
  split
  · split
    · exact good_fail log w []
    · split
      · exact good_fail log w []
      · split
        · simp [Good, paths]
        · exact good_fail log w []
  · exact good_fail log w []

/- `Good` does not look at the value of a result, so where the translator only repacks the value
of a recursive call (`rcases r … <;> exact h`) the hypothesis about the call is the goal. -/
mutual
theorem tr_good (env : Env) : ∀ (c : Cfg) (w : Path) (log : Log), Good log (typePaths c w) (tr env c w log)
  | .scalar s, w, log => good_pure log _
  | .list l, w, log => by
      have h := trItems_good env l w 0 log
      rw [tr, typePaths]
      generalize trItems env l w 0 log = r at h ⊢
      rcases r with e | ⟨vs, log1⟩ <;> exact h
  | .map m, w, log => by
      have h := trEntries_good env m w log
      rw [tr, typePaths]
      generalize trEntries env m w log = r at h ⊢
      rcases r with e | ⟨vs, log1⟩
      · exact good_of_error h _
      · split
        · exact good_append h (construct_good env w vs log1)
        · exact good_append h (good_pure log1 (Val.map vs))
theorem trItems_good (env : Env) : ∀ (l : List Cfg) (w : Path) (i : Nat) (log : Log),
    Good log (typePathsItems l w i) (trItems env l w i log)
  | [], w, i, log => good_pure log _
  | c :: cs, w, i, log => by
      have h1 := trItems_good env cs w (i + 1) log
      rw [trItems, typePathsItems]
      generalize trItems env cs w (i + 1) log = r at h1 ⊢
      rcases r with e | ⟨vs, log1⟩
      · exact good_of_error h1 _
      · refine good_append h1 ?_
        have h2 := tr_good env c (w ++ [.idx i]) log1
        dsimp only
        generalize tr env c (w ++ [.idx i]) log1 = r at h2 ⊢
        rcases r with e | ⟨v, log2⟩ <;> exact h2
theorem trEntries_good (env : Env) : ∀ (m : List (String × Cfg)) (w : Path) (log : Log),
    Good log (typePathsEntries m w) (trEntries env m w log)
  | [], w, log => good_pure log _
  | (k, c) :: rest, w, log => by
      have h1 := tr_good env c (w ++ [.key k]) log
      rw [trEntries, typePathsEntries]
      generalize tr env c (w ++ [.key k]) log = r at h1 ⊢
      rcases r with e | ⟨v, log1⟩
      · exact good_of_error h1 _
      · refine good_append h1 ?_
        have h2 := trEntries_good env rest w log1
        dsimp only
        generalize trEntries env rest w log1 = r at h2 ⊢
        rcases r with e | ⟨vs, log2⟩ <;> exact h2
end

/-- on success every `__type__` node was called exactly once, children before parents, later
list items before earlier ones, mapping values in insertion order -/
theorem log_eq_spec (env : Env) (c : Cfg) (v : Val) (log' : Log)
    (h : tr env c [] [] = .ok (v, log')) : paths log' = typePaths c [] := by
  have := tr_good env c [] []
  rw [h] at this
  exact this

theorem each_once (env : Env) (c : Cfg) (v : Val) (log' : Log)
    (h : tr env c [] [] = .ok (v, log')) : log'.length = (typePaths c []).length := by
  rw [← log_eq_spec env c v log' h, paths, List.length_map]

/-- a failure is reported at the path of the first `__type__` node, in evaluation order, whose
factory cannot be resolved or called; exactly the nodes before it were constructed -/
theorem error_path (env : Env) (c : Cfg) (p : Path) (log' : Log)
    (h : tr env c [] [] = .error (p, log')) :
    ∃ pre post, typePaths c [] = pre ++ p :: post ∧ paths log' = pre := by
  have := tr_good env c [] []
  rw [h] at this
  exact this

/-- the factory receives `__args__` as positionals and the remaining items as keywords -/
theorem construct_args (env : Env) (w : Path) (m : List (String × Val)) (log : Log) (v : Val) (log' : Log)
    (h : construct env w m log = .ok (v, log')) :
    ∃ name f args, lookupV "__type__" m = some (.scalar (.str name)) ∧ env.resolve name = some f ∧
      getArgs (eraseKey "__type__" m) = some args ∧
      env.apply f args (eraseKey "__args__" (eraseKey "__type__" m)) log.length = some v ∧
      log' = log ++ [{ path := w, factory := f, args := args,
                       kwargs := eraseKey "__args__" (eraseKey "__type__" m) }] := by
  unfold construct at h
  split at h
  next name hty =>
    split at h
    · cases h
    next f hres =>
      split at h
      · cases h
      next args hargs =>
        split at h
        next v' hap =>
          cases h
          exact ⟨name, f, args, hty, hres, hargs, hap, rfl⟩
        · cases h
  · cases h

/-! ### non-vacuity: a depth-3 tree with a failing factory under `.a.b[1].k` -/

def exEnv : Env :=
  { resolve := fun n => if n = "ok" then some 0 else if n = "bad" then some 1 else none
    apply := fun f _ _ n => if f = 0 then some (.obj n) else none }

def exTree : Cfg :=
  .map [("a", .map [("b", .list [.map [("__type__", .scalar (.str "ok"))],
                                  .map [("k", .map [("__type__", .scalar (.str "bad"))]),
                                        ("__type__", .scalar (.str "ok"))],
                                  .map [("__type__", .scalar (.str "ok")), ("x", .scalar (.other 1))]])])]

example : typePaths exTree [] =
    [[.key "a", .key "b", .idx 2], [.key "a", .key "b", .idx 1, .key "k"], [.key "a", .key "b", .idx 1],
     [.key "a", .key "b", .idx 0]] := by decide +kernel
def errView : Res Val → Option (Path × List Path)
  | .error (p, l) => some (p, paths l)
  | .ok _ => none
example : errView (tr exEnv exTree [] []) =
    some ([.key "a", .key "b", .idx 1, .key "k"], [[.key "a", .key "b", .idx 2]]) := by decide +kernel

/-! ### the translator as written in the source

`Gen.translatorKeys` is only emitted when `Translator.translate_hierarchy` and `Translator.construct`
are, up to layout, the text the model `tr` / `construct` was transcribed from; it holds the two
reserved keys the model uses. `Gen.pipelineWalkShape`: the pipeline section passes every element
through this same translation (`PipelineTranslator` falls back to it for everything that is not a
mapping with a `pipeline` key). -/

theorem gen_translator_keys :
    Gen.translatorKeys = ["__type__", "__args__"] ∧ Gen.pipelineWalkShape = true ∧
    (∀ m, hasType m = m.any (fun kv => kv.1 == Gen.translatorKeys[0]!)) ∧
    (∀ rest, getArgs rest = match lookupV (Gen.translatorKeys[1]!) rest with
      | none => some [] | some (.list l) => some l | some _ => none) :=
  ⟨rfl, rfl, fun _ => rfl, fun _ => rfl⟩

end Cobald.Props.C19
