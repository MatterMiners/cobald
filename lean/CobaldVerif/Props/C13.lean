/-
C13 — The daemon runs its configured pipeline until stopped; failures set the exit status.
Corollaries of the runtime theorems (C01 C02 C03 C12) for the daemon's instantiation of the
LTS, plus the totality of the loader dispatch.  Interpreter start-up / shutdown, signal
delivery and garbage collection are outside the model (assumed as in DESIGN §7.9).
-/
import CobaldVerif.Model.Daemon
import CobaldVerif.Props.C01
import CobaldVerif.Props.C03
import CobaldVerif.Generated.Src
import CobaldVerif.Lemmas.RuntimeProgress

namespace Cobald.Props.C13
open Cobald Cobald.Runtime Cobald.Daemon

/-- the loader dispatch is total and only `.yaml` / `.yml` / `.py` select a loader; every other
extension is an error of the loader payload -/
theorem dispatch_total (ext : String) :
    (dispatch ext = .yaml ↔ (ext = ".yaml" ∨ ext = ".yml")) ∧
    (dispatch ext = .python ↔ ext = ".py") ∧
    (dispatch ext = .unknown ↔ (ext ≠ ".yaml" ∧ ext ≠ ".yml" ∧ ext ≠ ".py")) := by
  unfold dispatch
  by_cases h1 : ext = ".yaml" ∨ ext = ".yml"
  · rcases h1 with rfl | rfl <;> simp
  · by_cases h2 : ext = ".py"
    · subst h2; simp
    · obtain ⟨ha, hb⟩ := not_or.1 h1
      simp [ha, hb, h2]

/-- the extension dispatch as it stands in the source of `core/config.py::load` (the lists are
re-emitted from the source text on every run; the final `else` raises) is the model's `dispatch` -/
theorem gen_dispatch_eq (ext : String) :
    dispatch ext = (if ext ∈ Gen.dispatchYaml then .yaml else if ext ∈ Gen.dispatchPython then .python else .unknown) := by
  simp [dispatch, Gen.dispatchYaml, Gen.dispatchPython]

/-- `core/main.py` as written in the source: `run` queues `_load_services` as an asyncio payload and then calls
`runtime.accept()` bare (what accept raises leaves the process: `exitStatus`), `_load_services` holds the loaded
configuration inside `with load(path)` until it is cancelled - the model's `daemonStart` -/
theorem gen_daemon_start :
    Gen.daemonStart = ["adopt:_load_services:asyncio", "accept"] ∧
    daemonStart = [.adopt loader .aio, .acceptBegin 0] := ⟨rfl, rfl⟩

/-- the daemon's start is a behaviour of the runtime: the loader is queued as an asyncio
payload and the runtime begins to accept -/
theorem start_reachable : ∃ s, run St.init daemonStart = some s ∧ s.pay loader = .queued ∧
    s.fl loader = .aio ∧ s.phase = .launching := by
  refine ⟨_, rfl, ?_, ?_, ?_⟩ <;> simp [upd, loader]

/-- **the configured objects are constructed inside the running event loop**: the loader runs
as an asyncio payload, hence (C03 `start_flavour`) on the event-loop thread after the runners
were launched -/
theorem loader_in_loop (s : St) (hr : Reach s) (hl : s.fl loader = .aio) (hrun : s.pay loader = .running) :
    s.tid loader = s.loopTid ∧ s.loopTid ≠ none :=
  (C03.start_flavour s hr loader hrun).1 hl

/-- **every service is started exactly once** (never twice, whatever the number of polling
cycles) -/
theorem services_started_once (s : St) (hr : Reach s) (p : Nat) : s.starts p ≤ 1 :=
  C03.start_le_one s hr p

/-- **an invalid configuration, an unknown extension or a failing service gives a non-zero
exit status**: each of them is a failing outcome of a payload (the loader or the service's
`run`); if it was recorded while the daemon was up and nobody interrupted, the daemon does not
exit with status 0 -/
theorem failure_nonzero (s : St) (hr : Reach s) (hf : s.failedQuiet ≠ [])
    (hi : s.gather ≠ .interrupted) (hk : ∀ q, s.pay q ≠ .done .kbd) (r : Res) (he : s.phase = .ended r) :
    exitStatus r ≠ 0 := by
  have := C01.failure_never_returns s hr hf hi hk
  cases r with
  | returned => exact absurd he this
  | raisedRT p => simp [exitStatus]
  | raisedBase p => simp [exitStatus]

/-- **SIGINT stops it gracefully**: once the interrupt has been delivered (and no failure had
been raised before), the only result the run may end with is a normal return: exit status 0 -/
theorem sigint_exit0 (s : St) (r : Res) (hi : s.gather = .interrupted) (h : (step s (.endRun r)).isSome = true) :
    exitStatus r = 0 := by
  rw [resultOK_not_raised (endRun_enabled.1 h).2.2.2.2.2 (by rw [hi]; nofun)]
  rfl

/-- **it never stays up idle after a failure**: a recorded failure keeps enabling progress
towards the end of the run — the failed runner's task can end, and `gather` can deliver it -/
theorem failure_progress (s : St) (f : Flav) (p : Nat) (hup : s.phase = .up)
    (hl : s.latch f = .failed p) (hrt : s.rtask f = .running) :
    ∃ s', step s (.rtaskEnd f) = some s' ∧ s'.rtask f = .err p ∧
      (s.gather = .pending → ∃ s'', step s' (.gatherRaise f) = some s'' ∧ s''.gather = .raised p) := by
  let s1 : St := { s with rtask := step.upd' s.rtask f (.err p) }
  have h1 : s1.rtask f = .err p := by simp [s1]
  exact ⟨s1, (Step.rtaskErr f p hup hrt hl).to_step, h1, fun hg => ⟨_, (Step.gatherRaise (s := s1) f p h1 hg hup).to_step, rfl⟩⟩

/-- **it never stays up idle**: once the failure of the loader or of a service has been delivered
to the runtime and the coroutine payloads have unwound, at most 8 closing steps end the daemon's
run call, and the exit status is not 0 -/
theorem failure_exits_nonzero (s : St) (hr : Reach s) (hup : s.phase = .up) (p : Nat) (hg : s.gather = .raised p)
    (hk : s.pay p ≠ .done .kbd) (hq : s.coQuiet) :
    ∃ es s' r, (es.all Ev.closingEv = true) ∧ run s es = some s' ∧ s'.phase = .ended r ∧ exitStatus r ≠ 0 ∧ es.length ≤ 8 := by
  obtain ⟨es, s', r, h1, h2, h3, h4, h5⟩ := Runtime.failure_ends_run s hr hup p hg hk hq
  refine ⟨es, s', r, h1, h2, h3, ?_, h5⟩
  cases r with
  | returned => exact absurd rfl h4
  | raisedRT _ => simp [exitStatus]
  | raisedBase _ => simp [exitStatus]

/-- **SIGINT stops it gracefully**: after the interrupt, once the services have been cancelled and
have unwound, at most 8 closing steps end the run call -/
theorem sigint_stops (s : St) (hr : Reach s) (hup : s.phase = .up) (hi : s.gather = .interrupted) (hq : s.coQuiet) :
    ∃ es s' r, (es.all Ev.closingEv = true) ∧ run s es = some s' ∧ s'.phase = .ended r ∧ es.length ≤ 8 :=
  closing_terminates s hr hup (Or.inr (by simp [hi])) hq

/-! ### "keeps all of them alive": references and garbage collection

A service unit refers to its instance weakly until the instance's `run` has been adopted; what
keeps the configured objects alive meanwhile is the frame of the loader payload, which stays
inside `with load(config_path)` for as long as the daemon is up. -/

/-- an instance that a running payload refers to cannot be collected -/
theorem held_not_collected (s : St) (p : Nat) (hh : s.held p = true) : step s (.dropUnit p) = none := by
  simp [step, hh]

/-- a collected service is never started (so losing the reference would leave the daemon idle) -/
theorem collected_never_started (s s' : St) (hr : Reach s) (p : Nat) (h : step s (.dropUnit p) = some s') :
    s'.pay p = .discarded ∧ s'.starts p = 0 := by
  cases Step.of_step h with
  | dropUnit _ hu _ =>
    refine ⟨by simp, ?_⟩
    rcases (inv_reach s hr).c.starts_once p with ⟨h0, _⟩ | ⟨_, h1⟩
    · exact h0
    · rw [hu] at h1; cases h1

/-- **the loader keeps the services alive**: as long as the payload that refers to a service keeps
running - its body does not end and it is not cancelled - every event leaves the service referenced;
it can be swept (`C03.sweep_enabled`) but not collected -/
theorem held_stable (s s' : St) (e : Ev) (p h : Nat) (hh : s.holder p = some h) (hrun : s.pay h = .running)
    (hs : step s e = some s') (h1 : ∀ o, e ≠ .bodyEnd h o) (h2 : e ≠ .unwound h) : s'.held p = true := by
  have key (t : St) {h'} (a : t.holder p = some h') (b : t.pay h' = .running) : t.held p = true := by
    simp [St.held, a, b]
  -- an event that moves another payload leaves `h` running; so does one that moves a payload out
  -- of a state other than running
  have moved {q} (y : PSt) (hq : q ≠ h) : upd s.pay q y h = .running := by
    rw [upd_apply, if_neg (Ne.symm hq), hrun]
  have other {q x} (hx : s.pay q = x) (hn : x ≠ .running) : q ≠ h := fun hq => hn (by rw [← hx, hq, hrun])
  cases Step.of_step hs
  case hold p' h' hr =>
    by_cases hp : p = p'
    · exact key _ (by simp [hp]) hr
    · exact key _ (by simpa [hp] using hh) hrun
  case flush => exact key _ hh (show (if s.pay h = .queued then _ else _) = _ by rw [hrun]; rfl)
  case bodyEnd q o hr => exact key _ hh (moved _ fun hq => h1 o (hq ▸ rfl))
  case unwound q hr _ _ => exact key _ hh (moved _ fun hq => h2 (hq ▸ rfl))
  case start q t hg _ => exact key _ hh (moved _ fun hq => by rw [hq, hrun] at hg; simp at hg)
  case adoptQueued q _ ha _ | adoptUp q _ ha _ | newUnit q _ ha | sweep q _ ha _ _ | recordOnly q _ ha _ |
      recordKill q _ ha _ _ _ _ | recordFail q _ ha _ _ _ | discard q ha _ | dropUnit q ha _ =>
    exact key _ hh (moved _ (other ha nofun))
  all_goals exact key _ hh hrun

/-! ### non-vacuity: a configuration error makes the daemon exit with status 1 -/

def badConfig : List Ev :=
  daemonStart ++ [.launch, .flush, .start loader 0, .bodyEnd loader .exc, .record loader, .rtaskEnd .aio,
    .gatherRaise .aio, .close .trio, .close .thr, .rtaskEnd .trio, .rtaskEnd .thr, .endRun (.raisedRT loader)]
example : ((run St.init badConfig).map (fun s => s.phase)) = some (.ended (.raisedRT loader)) := by decide +kernel
-- a service constructed by the running loader is held, cannot be collected, and can be swept
def keepAlive : List Ev := daemonStart ++ [.launch, .flush, .start loader 0, .newUnit 1 .trio, .hold 1 loader]
example : ((run St.init keepAlive).map (fun s => (s.held 1, (step s (.dropUnit 1)).isNone, (step s (.sweep 1)).isSome))) =
    some (true, true, true) := by decide +kernel
-- without the reference the very same service can be collected before it is adopted
example : ((run St.init (keepAlive.dropLast)).map (fun s => (s.held 1, (step s (.dropUnit 1)).isSome))) =
    some (false, true) := by decide +kernel
example : dispatch ".yml" = .yaml ∧ dispatch ".py" = .python ∧ dispatch ".json" = .unknown ∧ dispatch "" = .unknown := by
  decide

/-- The functions this property's part of the model was transcribed from (what the daemon rests on: the
runtime's `accept` / `adopt` and the polling of service units, `MetaRunner.run` (whose result is the exit
status), and the two configuration loaders) still read as they did then (`Gen.pinned`; the table behind it
is recomputed from the source on every run, DESIGN §12.1). The transcription itself is trusted; a changed
function breaks this theorem, and the scenario families are then the search for a failing history. -/
theorem gen_runtime_text :
    ∀ n ∈ ["service:ServiceRunner.accept",
     "service:ServiceRunner.adopt",
     "service:ServiceRunner._accept_services",
     "service:ServiceRunner._adopt_services",
     "service:service",
     "meta_runner:MetaRunner.run",
     "meta_runner:MetaRunner._manage_runners",
     "python:load_configuration",
     "yaml:load_configuration"],
      Gen.pinned n = true := by decide +kernel

end Cobald.Props.C13
