/-
C16 — Decorators are transparent except for what they are meant to change.
-/
import CobaldVerif.Lemmas.Decorators
import CobaldVerif.Lemmas.Standardiser
import CobaldVerif.Generated.SrcDecorators

namespace Cobald.Props.C16
open Cobald Cobald.ERat Cobald.Decorators

/-- **supply, utilisation and allocation are those of the underlying pool**, through any stack
of the shipped decorators, in any order and depth -/
theorem transparent_sua (a : Attr) : ∀ s : Stack, getAttr a s = s.basePool.attr a
  | .base _ => rfl
  | .plain s => transparent_sua a s
  | .logger _ s => transparent_sua a s
  | .std _ _ s => transparent_sua a s
  | .buffer _ s => transparent_sua a s

/-- reading demand never changes what the stack reports for the other attributes -/
theorem read_keeps_sua (a : Attr) : ∀ s : Stack, getAttr a (getDemand s).1 = getAttr a s
  | .base _ => rfl
  | .plain s => read_keeps_sua a s
  | .logger _ s => read_keeps_sua a s
  | .std p st s => by rw [getDemand_std]; exact read_keeps_sua a s
  | .buffer _ _ => rfl

/-- nor does a demand write, at any depth -/
theorem write_keeps_sua (a : Attr) : ∀ (s : Stack) (v : ERat), getAttr a (setDemand s v).1 = getAttr a s
  | .base p, v => by cases a <;> rfl
  | .plain s, v => write_keeps_sua a s v
  | .logger _ s, v => write_keeps_sua a s v
  | .std p st s, v => by
      obtain ⟨_, v', h⟩ := setDemand_std p st s v
      rw [h]; exact write_keeps_sua a s v'
  | .buffer _ _, _ => rfl

/-- a stack made of plain decorators and Loggers only -/
def transparent : Stack → Bool
  | .base _ => true
  | .plain s => transparent s
  | .logger _ s => transparent s
  | .std _ _ _ => false
  | .buffer _ _ => false

def numLoggers : Stack → Nat
  | .base _ => 0
  | .plain s => numLoggers s
  | .logger _ s => numLoggers s + 1
  | .std _ _ s => numLoggers s
  | .buffer _ s => numLoggers s

/-- through a plain decorator or a Logger demand reads pass through unchanged -/
theorem demand_read_passthrough : ∀ s : Stack, transparent s = true →
    getDemand s = (s, s.basePool.demand)
  | .base _, _ => rfl
  | .plain s, h => by rw [getDemand, demand_read_passthrough s h]; rfl
  | .logger _ s, h => by rw [getDemand, demand_read_passthrough s h]; rfl
  | .std _ _ _, h => nomatch h
  | .buffer _ _, h => nomatch h

/-- … and so do demand writes; every Logger emits exactly one record, carrying the new value
and the target's demand, supply, utilisation and allocation from before the write -/
theorem demand_write_passthrough : ∀ (s : Stack) (v : ERat), transparent s = true →
    (setDemand s v).1.basePool.demand = v ∧
    (setDemand s v).2.length = numLoggers s ∧
    ∀ r ∈ (setDemand s v).2, r.value = v ∧ r.demand = s.basePool.demand ∧
      r.supply = s.basePool.supply ∧ r.util = s.basePool.util ∧ r.alloc = s.basePool.alloc
  | .base p, v, _ => ⟨rfl, rfl, fun _ h => nomatch h⟩
  | .plain s, v, h => demand_write_passthrough s v h
  | .logger i s, v, h => by
      obtain ⟨ih1, ih2, ih3⟩ := demand_write_passthrough s v h
      refine ⟨ih1, congrArg (· + 1) ih2, fun r hr => ?_⟩
      rcases List.mem_cons.1 hr with rfl | hr
      · exact ⟨rfl, congrArg Prod.snd (demand_read_passthrough s h), transparent_sua .supply s,
          transparent_sua .util s, transparent_sua .alloc s⟩
      · exact ih3 r hr
  | .std _ _ _, _, h => nomatch h
  | .buffer _ _, _, h => nomatch h

/-- in *any* stack a Logger emits exactly one record per demand write that reaches it, built
from its target's state before the write is applied, and then passes the write on -/
theorem logger_one_record (i : Nat) (s : Stack) (v : ERat) :
    (setDemand (.logger i s) v).2 =
      { logger := i, value := v, demand := (getDemand s).2, supply := getAttr .supply s,
        util := getAttr .util s, alloc := getAttr .alloc s } :: (setDemand s v).2 := rfl

/-- a demand read is idempotent on the value it reports -/
theorem read_read : ∀ s : Stack, (getDemand (getDemand s).1).2 = (getDemand s).2
  | .base _ => rfl
  | .plain s => read_read s
  | .logger _ s => read_read s
  | .buffer _ _ => rfl
  | .std p st s => by
      simp only [getDemand_std, read_read s]
      split <;> simp [*]

/-- the justification of the Logger case of the model: whatever a preceding read of the
target's demand resynchronised is overwritten by the write -/
theorem setDemand_after_read : ∀ (s : Stack) (v : ERat), setDemand (getDemand s).1 v = setDemand s v
  | .base _, _ => rfl
  | .plain s, v => by simp only [getDemand, setDemand, setDemand_after_read s v]
  | .logger i s, v => by
      simp only [getDemand, setDemand, setDemand_after_read s v, read_read s, read_keeps_sua]
  | .buffer _ _, _ => rfl
  | .std p st s, v => by
      -- a write ignores what the layer had stored, so it does not matter whether the read resynchronised
      rw [getDemand_std]
      cases v <;> simp only [setDemand, setDemand_after_read s, read_keeps_sua]

/-- the Loggers a demand write reaches, top-down: those above the first `Buffer` (which stores
the write instead of forwarding it) -/
def loggersReached : Stack → List Nat
  | .base _ => []
  | .plain s => loggersReached s
  | .logger i s => i :: loggersReached s
  | .std _ _ s => loggersReached s
  | .buffer _ _ => []

/-- **one record per Logger per write, outermost Logger first, in any stack**: whatever
Standardisers, plain decorators and Buffers lie in between, a demand write makes exactly the
Loggers it reaches emit, each once, in top-down order - never two records, never a skipped one -/
theorem records_are_loggers_reached : ∀ (s : Stack) (v : ERat),
    (setDemand s v).2.map (·.logger) = loggersReached s
  | .base _, _ => rfl
  | .plain s, v => records_are_loggers_reached s v
  | .logger i s, v => congrArg (i :: ·) (records_are_loggers_reached s v)
  | .std p st s, v => by
      obtain ⟨_, v', h⟩ := setDemand_std p st s v
      rw [h]; exact records_are_loggers_reached s v'
  | .buffer _ _, _ => rfl

/-- reads and writes leave the set of reached Loggers alone (a stack does not restructure) -/
theorem read_keeps_loggers : ∀ s : Stack, loggersReached (getDemand s).1 = loggersReached s
  | .base _ => rfl
  | .plain s => read_keeps_loggers s
  | .logger i s => congrArg (i :: ·) (read_keeps_loggers s)
  | .std p st s => by rw [getDemand_std]; exact read_keeps_loggers s
  | .buffer _ _ => rfl

theorem write_keeps_loggers : ∀ (s : Stack) (v : ERat),
    loggersReached (setDemand s v).1 = loggersReached s
  | .base _, _ => rfl
  | .plain s, v => write_keeps_loggers s v
  | .logger i s, v => congrArg (i :: ·) (write_keeps_loggers s v)
  | .std p st s, v => by
      obtain ⟨_, v', h⟩ := setDemand_std p st s v
      rw [h]; exact write_keeps_loggers s v'
  | .buffer _ _, _ => rfl

theorem setBase_keeps_loggers (f : Pool → Pool) : ∀ s : Stack,
    loggersReached (setBase f s) = loggersReached s
  | .base _ => rfl
  | .plain s => setBase_keeps_loggers f s
  | .logger i s => congrArg (i :: ·) (setBase_keeps_loggers f s)
  | .std _ _ s => setBase_keeps_loggers f s
  | .buffer _ _ => rfl

theorem setBase_sua (a : Attr) (f : Pool → Pool) : ∀ s : Stack,
    getAttr a (setBase f s) = (f s.basePool).attr a
  | .base _ => rfl
  | .plain s => setBase_sua a f s
  | .logger _ s => setBase_sua a f s
  | .std _ _ s => setBase_sua a f s
  | .buffer _ s => setBase_sua a f s

/-- an operation of a history: a demand read, a demand write, a change of the underlying
pool's supply / utilisation / allocation -/
inductive Op
  | read
  | write (v : ERat)
  | world (supply util alloc : Rat)

def world (su ut al : Rat) (p : Pool) : Pool := { p with supply := su, util := ut, alloc := al }

def applyOp (s : Stack) : Op → Stack
  | .read => (getDemand s).1
  | .write v => (setDemand s v).1
  | .world su ut al => setBase (world su ut al) s

/-- what the pool itself last reported, over a history -/
def lastWorld (a : Attr) (init : Rat) : List Op → Rat
  | [] => init
  | .world su ut al :: r => lastWorld a (match a with | .supply => su | .util => ut | .alloc => al) r
  | _ :: r => lastWorld a init r

/-- one operation: the reported attribute follows the pool, the reached Loggers stay -/
theorem applyOp_sua (a : Attr) (s : Stack) : ∀ o : Op,
    getAttr a (applyOp s o) = lastWorld a (getAttr a s) [o]
  | .read => read_keeps_sua a s
  | .write v => write_keeps_sua a s v
  | .world su ut al => by rw [applyOp, setBase_sua]; cases a <;> rfl

theorem applyOp_keeps_loggers (s : Stack) : ∀ o : Op, loggersReached (applyOp s o) = loggersReached s
  | .read => read_keeps_loggers s
  | .write v => write_keeps_loggers s v
  | .world .. => setBase_keeps_loggers _ s

/-- **transparency over whole histories**: after any sequence of demand reads, demand writes and
changes of the underlying pool, a stack of any depth and order reports exactly the supply /
utilisation / allocation the underlying pool reported last - no decorator caches, delays or
rewrites them -/
theorem history_sua (a : Attr) : ∀ (ops : List Op) (s : Stack),
    getAttr a (ops.foldl applyOp s) = lastWorld a (getAttr a s) ops
  | [], _ => rfl
  | o :: r, s => by
      rw [List.foldl_cons, history_sua a r, applyOp_sua]
      cases o <;> rfl

/-- … and at every point of such a history a further demand write makes exactly the Loggers of
the original stack above its first Buffer emit, each once, outermost first -/
theorem history_records (ops : List Op) (s : Stack) (v : ERat) :
    (setDemand (ops.foldl applyOp s) v).2.map (·.logger) = loggersReached s := by
  rw [records_are_loggers_reached]
  induction ops generalizing s with
  | nil => rfl
  | cons o r ih => rw [List.foldl_cons, ih, applyOp_keeps_loggers]

/-- **a Standardiser inside a stack keeps its promise at the pool itself** (C06 carried through
the stack model): with plain decorators and Loggers - any number, any order - between a
Standardiser and the pool, every finite demand written to the Standardiser arrives at the pool
as exactly the forwarded value, which lies within `[minimum, maximum]`; and whatever is stacked
*above* the Standardiser cannot change that, because it can only choose the written value -/
theorem stack_std_in_limits (p : Standardiser.Params) (hp : p.ok) (st : ERat) (s : Stack)
    (h : transparent s = true) (x : Rat) :
    (setDemand (.std p st s) (fin x)).1.basePool.demand = Standardiser.fwd p s.basePool.supply x ∧
    p.min ≤ (setDemand (.std p st s) (fin x)).1.basePool.demand ∧
    (setDemand (.std p st s) (fin x)).1.basePool.demand ≤ p.max := by
  have hw := (demand_write_passthrough s (Standardiser.fwd p (getAttr .supply s) x) h).1
  have hs : getAttr .supply s = s.basePool.supply := transparent_sua .supply s
  simp only [setDemand, Stack.basePool]
  rw [hw, hs]
  exact ⟨rfl, Standardiser.fwd_mem hp _ x⟩

/-- a template that names an unknown field is rejected when the Logger is constructed -/
theorem template_unknown_rejected (known : List (List Char)) (t : List Char) (fs : List Field)
    (hf : fields (t.length + 1) t = some fs) (n : List Char) (c : Char)
    (hn : { name := some n, conv := c } ∈ fs) (hu : n ∉ known) : templateOK known t = false := by
  unfold templateOK
  rw [hf]
  simp only [Bool.and_eq_false_iff]
  right
  rw [List.all_eq_false]
  refine ⟨_, hn, ?_⟩
  simp [hu]

/-- a malformed template is rejected as well -/
theorem template_malformed_rejected (known : List (List Char)) (t : List Char)
    (hf : fields (t.length + 1) t = none) : templateOK known t = false := by
  simp [templateOK, hf]

/-- a well-formed template over the documented fields is accepted -/
theorem template_known_accepted (known : List (List Char)) (t : List Char) (fs : List Field)
    (hf : fields (t.length + 1) t = some fs)
    (hall : ∀ f ∈ fs, ∃ n, f.name = some n ∧ n ∈ known ∧ convOK f.name f.conv = true) :
    templateOK known t = true := by
  unfold templateOK
  rw [hf]
  simp only [Bool.and_eq_true, List.all_eq_true]
  constructor
  · intro f hf'
    obtain ⟨n, hn, _, _⟩ := hall f (List.mem_of_mem_tail hf')
    simp [hn]
  · intro f hf'
    obtain ⟨n, hn, hk, hc⟩ := hall f hf'
    rw [hn] at hc
    simp [hn, hk, hc]

def exPool : Pool := { supply := 10, demand := fin 4, util := 1/2, alloc := 3/4 }
def exStack : Stack := .logger 2 (.plain (.logger 1 (.base exPool)))
example : transparent exStack = true ∧ numLoggers exStack = 2 := by decide
example : (setDemand exStack (fin 7)).2.map (·.logger) = [2, 1] := by decide +kernel
def exKnown : List (List Char) := ["value".toList, "demand".toList, "target".toList]
def exDeep : Stack := .logger 3 (.std { min := .ninf, max := .pinf, g := 1, backlog := .pinf, surplus := .pinf } (fin 0) (.logger 2 (.buffer (fin 1) (.logger 1 (.base exPool)))))
example : loggersReached exDeep = [3, 2] := by decide +kernel
def exParams : Standardiser.Params := { min := fin 2, max := fin 9, g := 1, backlog := .pinf, surplus := .pinf }
example : exParams.ok ∧ transparent exStack = true ∧
    (setDemand (.std exParams (fin 0) exStack) (fin 50)).1.basePool.demand = fin 9 := by decide +kernel
example : getAttr .supply ([Op.write (fin 9), .world 20 1 1, .read].foldl applyOp exDeep) = 20 := by decide +kernel
example : templateOK exKnown "d = %(value)s [%(demand).2f] %%".toList = true := by decide +kernel
example : templateOK exKnown "d = %(valu)s".toList = false := by decide +kernel

/-! ### the decorators as written in the source (`Generated/SrcDecorators.lean`)

The translator re-reads `_proxy.py`, `logger.py` and `buffer.py` on every run: the four proxy
properties of `PoolDecorator` read the target's attribute of the same name and its demand setter
is the single write `self.target.demand = value` (the `plain` case of the model); `Logger`'s
setter is one `log(level, message, fields)` call followed by that same write, and the fields are
the written value and the target's state read at that point - before the write (the `logger` case);
`Buffer` stores written demands in a plain attribute and `run` forwards it when it differs (the
`buffer` case, with C09's model of `run`). -/

theorem gen_decorator_shapes :
    Gen.Decorators.proxyShape = true ∧ Gen.Decorators.bufferShape = true ∧
    Gen.Decorators.loggerFields =
      [("value", "value"), ("demand", "self.target.demand"), ("supply", "self.target.supply"),
       ("utilisation", "self.target.utilisation"), ("allocation", "self.target.allocation"),
       ("consumption", "self.target.allocation"), ("target", "self.target")] := ⟨rfl, rfl, rfl⟩

end Cobald.Props.C16
