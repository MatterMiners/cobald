/-
C07 — Composite pools conserve demand and aggregate their children faithfully.
All theorems are for arbitrary child lists (any length) over exact rationals.
-/
import CobaldVerif.Lemmas.Composite
import CobaldVerif.Generated.SrcComposite

namespace Cobald.Props.C07
open Cobald Cobald.Composite

/-- conservation: with at least one child the shares sum to exactly `D` -/
theorem shares_sum (k : Kind) (cs : List Child) (D : Rat) (hne : cs ≠ []) :
    (shares k cs D).sum = D := by
  obtain ⟨w, h, hW, -⟩ := shares_split k cs D
  rw [h, sum_split (hW hne)]

/-- the children's demands sum to the written demand -/
theorem demand_conserved (k : Kind) (st : St) (D : Rat) (hne : st.children ≠ []) :
    ((setDemand k st D).children.map (·.demand)).sum = D := by
  rw [children_setDemand, shares_sum k _ D hne]

/-- weighted shares are proportional to the weights -/
theorem share_proportional (a : Attr) (cs : List Child) (D : Rat) (hW : totalWeight a cs ≠ 0)
    (i j : Nat) (hi : i < cs.length) (hj : j < cs.length) :
    (shares (.weighted a) cs D)[i]'(by rw [shares_length]; exact hi) * cs[j].get a =
    (shares (.weighted a) cs D)[j]'(by rw [shares_length]; exact hj) * cs[i].get a := by
  simp only [shares_weighted a cs D hW, List.getElem_map]
  ring

/-- equal shares for the uniform composite and when all weights vanish -/
theorem share_uniform (k : Kind) (cs : List Child) (D : Rat)
    (h : k = .uniform ∨ ∃ a, k = .weighted a ∧ totalWeight a cs = 0) :
    shares k cs D = cs.map (fun _ => D / cs.length) := by
  rcases h with rfl | ⟨a, rfl, hW⟩ <;> simp [shares, *]

/-- each share lies between 0 and D (non-negative weights, D ≥ 0) -/
theorem share_bounds (k : Kind) (cs : List Child) (D : Rat) (hD : 0 ≤ D)
    (hw : ∀ a, k = .weighted a → ∀ c ∈ cs, 0 ≤ c.get a) :
    ∀ s ∈ shares k cs D, 0 ≤ s ∧ s ≤ D := by
  intro s hs
  obtain ⟨w, h, hW, hw'⟩ := shares_split k cs D
  rw [h] at hs
  obtain ⟨c, hc, rfl⟩ := List.mem_map.mp hs
  exact split_bounds hD (hw' hw) (hW (List.ne_nil_of_mem hc)) hc

/-- the composite reads back exactly `D` … -/
theorem demand_readback (k : Kind) (st : St) (D : Rat) : (setDemand k st D).demand = D := rfl

/-- … whatever happens to the children afterwards -/
theorem demand_readback_history (k : Kind) (st : St) (D : Rat) (ops : List Op)
    (h : ∀ o ∈ ops, ∀ D', o ≠ .setDemand D') : (run k (setDemand k st D) ops).demand = D :=
  run_demand k ops h _

/-- supply is the sum of the children's supplies -/
theorem supply_sum (st : St) : supply st = (st.children.map (·.supply)).sum := rfl

/-- utilisation / allocation stay within any range that contains all the children's values
(uniform: at least one child; weighted: non-negative weights that do not all vanish) -/
theorem fitness_in_range (k : Kind) (f : Attr) (st : St) (m M : Rat)
    (hr : ∀ c ∈ st.children, m ≤ c.get f ∧ c.get f ≤ M)
    (hk : (k = .uniform ∧ st.children ≠ []) ∨
          ∃ a, k = .weighted a ∧ totalWeight a st.children ≠ 0 ∧ ∀ c ∈ st.children, 0 ≤ c.get a) :
    m ≤ fitness k f st ∧ fitness k f st ≤ M := by
  rcases hk with ⟨rfl, hne⟩ | ⟨a, rfl, hW, hw⟩
  · have hlen : st.children.length ≠ 0 := by simpa using hne
    simpa [fitness, hlen, sumOf_const] using
      mean_in_range (w := fun _ => 1) (fun _ _ => zero_le_one) (sumOf_one_ne_zero hne) hr
  · simp only [fitness, hW, if_false]
    exact mean_in_range hw hW hr

/-- the documented fallbacks, and only those -/
theorem fitness_fallbacks (k : Kind) (f : Attr) (st : St) :
    (st.children = [] → fitness k f st = 1) ∧
    (∀ a, k = .weighted a → totalWeight a st.children = 0 →
      (0 < supply st → fitness k f st = 0) ∧ (¬ 0 < supply st → fitness k f st = 1)) := by
  refine ⟨fun h => by cases k <;> simp [fitness, h, totalWeight, supply], ?_⟩
  rintro a rfl hW
  simp only [fitness, hW, if_true]
  exact ⟨fun h => if_pos h, fun h => if_neg h⟩

/-! ### the model is what the source says (regenerated on every run)

`Generated/SrcComposite.lean` is re-emitted from the text of `composite/uniform.py` and
`composite/weighted.py` by `harness/vh/translate.py` (the demand setter's loop, the `supply`,
`utilisation`, `allocation` getters with their `ZeroDivisionError` fallbacks, `_total_weight`,
`_undefined_fitness`, the initial demand of `__init__`).  These theorems equate the regenerated
definitions with the hand-written model the theorems above are about. -/

theorem gen_shares_uniform (cs : List Child) (D : Rat) :
    Gen.Composite.uniformShares cs D = shares .uniform cs D := rfl

theorem gen_shares_weighted (a : Attr) (cs : List Child) (D : Rat) :
    Gen.Composite.weightedShares a cs D = shares (.weighted a) cs D := by
  unfold Gen.Composite.weightedShares shares totalWeight
  by_cases h : sumOf (fun c => c.get a) cs = 0 <;> simp [h]

theorem gen_supply (st : St) :
    Gen.Composite.uniformSupply st.children = supply st ∧ Gen.Composite.weightedSupply st.children = supply st :=
  ⟨rfl, rfl⟩

theorem gen_init (cs : List Child) :
    Gen.Composite.uniformInitDemand cs = (init cs).demand ∧ Gen.Composite.weightedInitDemand cs = (init cs).demand :=
  ⟨rfl, rfl⟩

theorem gen_fitness_uniform (st : St) :
    Gen.Composite.uniformUtilisation st.children = fitness .uniform .util st ∧
    Gen.Composite.uniformAllocation st.children = fitness .uniform .alloc st := by
  unfold Gen.Composite.uniformUtilisation Gen.Composite.uniformAllocation
  simp only [Nat.cast_eq_zero]
  exact ⟨rfl, rfl⟩

theorem gen_fitness_weighted (a : Attr) (st : St) :
    Gen.Composite.weightedUtilisation a st.children = fitness (.weighted a) .util st ∧
    Gen.Composite.weightedAllocation a st.children = fitness (.weighted a) .alloc st :=
  ⟨rfl, rfl⟩

/-- both classes return the stored value from the `demand` getter -/
theorem gen_reads_stored :
    Gen.Composite.uniformReadsStored = true ∧ Gen.Composite.weightedReadsStored = true := ⟨rfl, rfl⟩

/-- **end to end, about the text of the source**: what the demand setters of `uniform.py` and `weighted.py`
hand to the children (as regenerated on this run) sums to the written demand and, for non-negative weights and
demand, keeps every share between 0 and the demand -/
theorem gen_conservation (a : Attr) (cs : List Child) (D : Rat) (hne : cs ≠ []) :
    (Gen.Composite.uniformShares cs D).sum = D ∧ (Gen.Composite.weightedShares a cs D).sum = D := by
  rw [gen_shares_uniform, gen_shares_weighted]
  exact ⟨shares_sum .uniform cs D hne, shares_sum (.weighted a) cs D hne⟩

theorem gen_share_bounds (a : Attr) (cs : List Child) (D : Rat) (hD : 0 ≤ D) (hw : ∀ c ∈ cs, 0 ≤ c.get a) :
    (∀ s ∈ Gen.Composite.uniformShares cs D, 0 ≤ s ∧ s ≤ D) ∧ (∀ s ∈ Gen.Composite.weightedShares a cs D, 0 ≤ s ∧ s ≤ D) := by
  rw [gen_shares_uniform, gen_shares_weighted]
  exact ⟨share_bounds .uniform cs D hD (fun _ hb => nomatch hb),
    share_bounds (.weighted a) cs D hD (fun _ hb => Kind.weighted.inj hb ▸ hw)⟩

/-! ### non-vacuity -/

def ex : St := init [⟨3, 1/2, 1, 0⟩, ⟨6, 1/4, 1/2, 0⟩, ⟨0, 1, 1, 5⟩]

example : ex.children ≠ [] ∧ totalWeight .supply ex.children ≠ 0 ∧ ∀ c ∈ ex.children, 0 ≤ c.get .supply := by
  decide +kernel
example : (setDemand (.weighted .supply) ex 9).children.map (·.demand) = [3, 6, 0] := by decide +kernel
example : fitness (.weighted .supply) .util ex = 1/3 := by decide +kernel

end Cobald.Props.C07
