/-
C17 — Monitoring output is well-formed and lossless.
The round trip is against the reference decoder `decodeLine` of Model/LineProtocol.lean.
-/
import CobaldVerif.Lemmas.LineProtocol
import CobaldVerif.Generated.Src
import Mathlib.Data.Rat.Floor

namespace Cobald.Props.C17
open Cobald Cobald.LP

/-- exactly what the line protocol can express (the property's exclusions): no trailing
backslash in the name, tag keys, tag values and field keys; unquoted values (numbers,
booleans, the timestamp) are free of separators and do not start with a quote; a field key
does not start with a line break. String field values are unrestricted. -/
structure WF (r : Rec) : Prop where
  name : noTrailBS r.name = true
  tags : tagsOK r.tags
  fields : fieldsOK r.fields
  ts : ∀ t, r.ts = some t → tokOK t

/-- **round trip**: every well-formed record decodes to exactly itself — name, tags, fields
with their string / non-string class and text, and the timestamp -/
theorem line_roundtrip (r : Rec) (h : WF r) : decodeLine (encodeLine r) = some r := by
  obtain ⟨name, tags, fields, ts⟩ := r
  have s1 := scan_esc S2 bs_not_S2 name (encTags tags ++ ' ' :: (encFields fields ++ (encTs ts ++ ['\n'])))
    h.name (encTags_stops (by decide) (by decide) _ _)
  have s2 := parseTags_enc tags
    ((encTags tags ++ ' ' :: (encFields fields ++ (encTs ts ++ ['\n']))).length + 1)
    (encFields fields ++ (encTs ts ++ ['\n'])) h.tags
    (by have := length_encTags tags; simp only [List.length_append]; omega)
  have s3 : parseFieldSet (encFields fields ++ (encTs ts ++ ['\n'])) =
      some (fields, encTs ts ++ ['\n']) := by
    cases ts with
    | none => exact parseFieldSet_enc fields h.fields _ _ (.inr rfl)
    | some t => exact parseFieldSet_enc fields h.fields _ _ (.inl rfl)
  have s4 := readTs_enc ts h.ts
  simp only [decodeLine, encodeLine, List.append_assoc, List.cons_append] at *
  simp only [s1, s2, s3, s4]

/-- what `line_protocol` emits decodes to the record with tags and fields ordered by key:
nothing is lost, nothing added -/
theorem lineProtocol_roundtrip (name : List Char) (tags : List (List Char × List Char))
    (fields : List (List Char × FVal)) (ts : Option (List Char))
    (h : WF { name := name, tags := tags, fields := fields, ts := ts }) :
    decodeLine (lineProtocol name tags fields ts) =
      some { name := name, tags := sortByKey tags, fields := sortByKey fields, ts := ts } ∧
    (∀ kv, kv ∈ sortByKey tags ↔ kv ∈ tags) ∧ (∀ kv, kv ∈ sortByKey fields ↔ kv ∈ fields) := by
  have ht := sortByKey_perm tags
  have hf := sortByKey_perm fields
  refine ⟨line_roundtrip _ ?_, fun _ => ht.mem_iff, fun _ => hf.mem_iff⟩
  exact { name := h.name
          tags := fun kv hkv => h.tags kv (ht.mem_iff.1 hkv)
          fields := fun kv hkv => h.fields kv (hf.mem_iff.1 hkv)
          ts := h.ts }

/-! ### the escaping chains as they stand in the source

`Generated/Src.lean` is re-emitted by `harness/vh/translate.py` from the text of
`monitor/format_line.py` on every run: the `.replace(a, b)` chains of `escape_key`, `escape_field`
and of the measurement name, in the order in which the code applies them. -/

/-- `escape_key` as written in the source is the model's `esc S3` -/
theorem gen_escape_key (s : List Char) : replSeq Gen.escapeKeyPairs s = esc S3 s :=
  replSeq_escPairs S3 (by decide) s

/-- the escaping of the measurement name as written in the source is `esc S2` -/
theorem gen_escape_name (s : List Char) : replSeq Gen.escapeNamePairs s = esc S2 s :=
  replSeq_escPairs S2 (by decide) s

/-- `escape_field`'s chain (backslashes first, then quotes) is the model's `escQ` -/
theorem gen_escape_field (s : List Char) : replSeq Gen.escapeFieldPairs s = escQ s :=
  (replSeq_escPairs ['\\', '"'] (by decide) s).trans (escQ_eq_esc s).symm

/-- tags and fields are emitted in the order of their keys (code points, as Python's `sorted`),
whatever order the record or the defaults had them in -/
theorem keys_sorted (tags : List (List Char × List Char)) (fields : List (List Char × FVal)) :
    KeySorted (sortByKey tags) ∧ KeySorted (sortByKey fields) :=
  ⟨sortByKey_sorted tags, sortByKey_sorted fields⟩

def noNL (t : List Char) : Prop := '\n' ∉ t

def fvalText : FVal → List Char
  | .str s => s
  | .tok t => t

structure NoLineBreaks (r : Rec) : Prop where
  name : noNL r.name
  tags : ∀ kv ∈ r.tags, noNL kv.1 ∧ noNL kv.2
  fields : ∀ kv ∈ r.fields, noNL kv.1 ∧ noNL (fvalText kv.2)
  ts : ∀ t, r.ts = some t → noNL t

/-- the output is `body ++ "\n"` with no line break inside `body` -/
theorem single_line (r : Rec) (h : NoLineBreaks r) :
    ∃ body, encodeLine r = body ++ ['\n'] ∧ '\n' ∉ body := by
  refine ⟨esc S2 r.name ++ encTags r.tags ++ ' ' :: encFields r.fields ++ encTs r.ts, by simp [encodeLine], ?_⟩
  have h1 := not_mem_esc (c := '\n') (by decide) S2 r.name h.name
  have h2 := not_mem_encTags (c := '\n') (by decide) r.tags h.tags
  -- `fvalText` unfolds to the model's `tagText`
  have h3 := not_mem_encFields (c := '\n') (by decide) r.fields h.fields
  have h4 : '\n' ∉ encTs r.ts := by
    cases hts : r.ts with
    | none => exact List.not_mem_nil
    | some t => exact List.not_mem_cons_of_ne_of_not_mem (by decide) (h.ts t hts)
  simp [h1, h2, h3, h4]

/-- fields are exactly the record items that are neither whitelisted nor log-record attributes;
tags are the defaults overridden by the whitelisted record items, rendered as text -/
theorem split_tags_fields (defaults : List (List Char × List Char)) (whitelist attrs : List (List Char))
    (args : List (List Char × FVal)) (hnd : (args.map (·.1)).Nodup) :
    (∀ kv, kv ∈ (splitRecord defaults whitelist attrs args).2 ↔
        kv ∈ args ∧ kv.1 ∉ whitelist ∧ kv.1 ∉ attrs) ∧
    (∀ k, lookup k (splitRecord defaults whitelist attrs args).1 =
        (lookup k ((args.filter (fun kv => kv.1 ∈ whitelist)).map (fun kv => (kv.1, tagText kv.2)))).or
          (lookup k defaults)) := by
  constructor
  · intro kv; simp [splitRecord, List.mem_filter]
  · intro k
    simp only [splitRecord]
    apply lookup_update
    have : ((args.filter (fun kv => kv.1 ∈ whitelist)).map (fun kv => (kv.1, tagText kv.2))).map (·.1) =
        (args.filter (fun kv => kv.1 ∈ whitelist)).map (·.1) := by simp [List.map_map, Function.comp_def]
    rw [this]
    exact (List.Sublist.map _ List.filter_sublist).nodup hnd

/-- the record time is rounded down to a multiple of the resolution -/
theorem timestamp_floor (created : Rat) (res : Int) (hres : 0 < res) :
    (∃ k : Int, floorTs created res = k * res) ∧ (floorTs created res : Rat) ≤ created ∧
    created < (floorTs created res : Rat) + res := by
  have hr : (0 : Rat) < res := by exact_mod_cast hres
  unfold floorTs
  refine ⟨⟨_, rfl⟩, ?_, ?_⟩
  · push_cast
    exact (le_div_iff₀ hr).1 (Int.floor_le _)
  · push_cast
    rw [← add_one_mul]
    exact (div_lt_iff₀ hr).1 (Int.lt_floor_add_one _)

/-- `JsonFormatter.format`: the record's data override the message, the message the time, the time
the defaults -/
theorem json_merge {α} (defaults time message data : List (List Char × α))
    (h1 : (defaults.map (·.1)).Nodup) (h2 : (time.map (·.1)).Nodup)
    (h3 : (message.map (·.1)).Nodup) (h4 : (data.map (·.1)).Nodup) (k : List Char) :
    lookup k (mergeLayers [defaults, time, message, data]) =
      (lookup k data).or ((lookup k message).or ((lookup k time).or (lookup k defaults))) := by
  simp only [mergeLayers, List.foldl_cons, List.foldl_nil]
  rw [lookup_update data h4, lookup_update message h3, lookup_update time h2, lookup_update defaults h1]
  simp [lookup]

def ex : Rec :=
  { name := ['m', ',', ' ', '=', '\\', 'x'],
    tags := [(['k', ',', '=', ' '], ['v', '\\', ',', 'w']), (['t'], ['4', '9'])],
    fields := [(['a', ' ', 'b'], .str ['i', 't', '\'', 's', ' ', '"', 'q', '"', ' ', '\\']),
               (['n'], .tok ['2', '9', '8']), (['o', 'k'], .tok ['T', 'r', 'u', 'e'])],
    ts := some ['1', '7', '0', '0'] }

example : WF ex := by
  refine ⟨by decide, by unfold tagsOK; decide, ?_, ?_⟩
  · unfold fieldsOK
    simp only [ex, List.forall_mem_cons, fvalOK, List.not_mem_nil, false_imp_iff, implies_true]
    unfold tokOK
    decide
  · intro t h; cases h; unfold tokOK; decide
example : decodeLine (encodeLine ex) = some ex := by decide +kernel

/-! ### the source text the model was transcribed from

`cobald/monitor/format_line.py` and `format_json.py`: how a line is assembled (name, sorted tags, a space, sorted fields, the optional time stamp, a newline), which arguments of a record become tags and fields, and the JSON document of a record - beside the three escape functions, which are translated.
`Gen.runtimePins` (recomputed on every run) says for each of these functions whether its normalised
text is still the text of `harness/vh/pins.json`; a changed function breaks this theorem and the
correspondence streams are then the search for a failing input. -/

theorem gen_source_text :
    ∀ n ∈ ["format_line:escape_key",
     "format_line:escape_field",
     "format_line:line_protocol",
     "format_line:LineProtocolFormatter.__init__",
     "format_line:LineProtocolFormatter.format",
     "format_json:JsonFormatter.__init__",
     "format_json:JsonFormatter.format"],
      Gen.pinned n = true := by decide +kernel

end Cobald.Props.C17
